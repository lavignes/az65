import Az65.Model.Abs
import Az65.Lemmas.LinkLemmas
/-
What the statement-level model (`Model/Abs.lean`) does to the core state, stated once for the
property files C05–C08, C16 and C20.  An accepted statement reads expressions, emits, or defines:

* reading (`resolve_eq`) is a map over the nodes (`CoreSt.inline`) and a fold of `touch` over the
  names met (`Node.ref?`), so it changes nothing but `hits`;
* emitting is `Adv c c' bs n`: `bs` is appended, the pending patches stay well-formed, the address
  advances by `n` and stays ≤ `TOP`, the symbols are untouched; there is one such lemma per effect
  function, and `Adv` composes;
* defining changes the symbol table and nothing else (`Step.of_def`; a struct body:
  `members_frame`).

`exec_step` is the one walk over the statement kinds that says so, one clause per property, through
the inversion `exec_ok`; `run_inv` carries an invariant along a statement list.
-/
namespace Az65
open LinkLemmas

namespace Env

theorem get_set_self (env : Env) (n : String) (e : Entry) : (env.set n e).get n = some e := by
  induction env with
  | nil => simp [Env.set, Env.get]
  | cons kv r ih => by_cases hk : kv.1 = n <;> simp [Env.set, Env.get, hk, ih]

theorem get_set_of_ne (env : Env) {n m : String} (e : Entry) (h : n ≠ m) :
    (env.set n e).get m = env.get m := by
  induction env with
  | nil => simp [Env.set, Env.get, h]
  | cons kv r ih =>
    by_cases hk : kv.1 = n
    · simp [Env.set, Env.get, hk, h]
    · simp [Env.set, Env.get, hk, ih]

theorem remove_cons (k : String) (v : Entry) (r : Env) (n : String) :
    Env.remove ((k, v) :: r) n = if k = n then Env.remove r n else (k, v) :: Env.remove r n := by
  by_cases hk : k = n <;> simp [Env.remove, hk]

theorem get_remove_self (env : Env) (n : String) : (env.remove n).get n = none := by
  induction env with
  | nil => rfl
  | cons kv r ih => rw [remove_cons]; by_cases hk : kv.1 = n <;> simp [hk, Env.get, ih]

theorem get_remove_of_ne (env : Env) {n m : String} (h : n ≠ m) :
    (env.remove n).get m = env.get m := by
  induction env with
  | nil => rfl
  | cons kv r ih =>
    rw [remove_cons]
    by_cases hk : kv.1 = n
    · simp [hk, Env.get, ih, h]
    · simp [hk, Env.get, ih]

theorem get_set_of_absent (env : Env) {n m : String} (e : Entry) {x : Entry}
    (habs : env.get n = none) (hm : env.get m = some x) : (env.set n e).get m = some x := by
  rw [get_set_of_ne env e (fun h => by rw [h, hm] at habs; cases habs), hm]

end Env

theorem CoreSt.insert_eq (c : CoreSt) (n : String) (s : Sym) :
    c.insert n s = c.insertWithMeta n s c.curMeta := rfl

theorem CoreSt.insertWithMeta_get_self (c : CoreSt) (n : String) (s : Sym) (m : List (String × String)) :
    (c.insertWithMeta n s m).symtab.get n = some ⟨s, m⟩ := Env.get_set_self ..

theorem CoreSt.insertWithMeta_get_of_ne (c : CoreSt) {n k : String} (s : Sym)
    (m : List (String × String)) (h : n ≠ k) :
    (c.insertWithMeta n s m).symtab.get k = c.symtab.get k := Env.get_set_of_ne _ _ h

structure Grow (c c' : CoreSt) (bs : List Nat) : Prop where
  data : c'.data = c.data ++ bs
  wf : Wf c.links c.data → Wf c'.links c'.data

namespace Grow
variable {c c' c'' : CoreSt} {bs bs' : List Nat}

theorem data_of_rev (hd : c'.dataRev = bs.reverse ++ c.dataRev) : c'.data = c.data ++ bs := by
  simp [CoreSt.data, hd]

theorem append (hd : c'.dataRev = bs.reverse ++ c.dataRev) (hl : c'.links = c.links) : Grow c c' bs :=
  have h := data_of_rev hd
  ⟨h, fun w => by rw [hl, h]; exact w.append_data bs⟩

theorem link (l : Link) (hd : c'.dataRev = (List.replicate l.len 0).reverse ++ c.dataRev)
    (hl : c'.links = c.links ++ [l]) (hoff : l.offset = c.dataLen) :
    Grow c c' (List.replicate l.len 0) :=
  have h := data_of_rev hd
  ⟨h, fun w => by rw [hl, h]; exact w.add_link l (by rw [hoff, dataLen_eq])⟩

theorem assertLink (l : Link) (hd : c'.dataRev = c.dataRev) (hl : c'.links = c.links ++ [l])
    (hk : l.kind = .assert) : Grow c c' [] :=
  have h : c'.data = c.data := by rw [CoreSt.data, hd]; rfl
  ⟨by rw [h, List.append_nil], fun w => by rw [hl, h]; exact w.add_assert l hk⟩

theorem trans (h1 : Grow c c' bs) (h2 : Grow c' c'' bs') : Grow c c'' (bs ++ bs') :=
  ⟨by rw [h2.data, h1.data, List.append_assoc], fun w => h2.wf (h1.wf w)⟩

end Grow

/-- An emitting step.  `n` is kept apart from `bs.length`: `@ds` advances by its size before it
emits its fill, an instruction emits its fields before `instrTail` advances, and in an ADDR segment
the address advances and nothing is emitted; the two agree for a whole statement in a CODE segment
(`Step.of_adv`). -/
structure Adv (c c' : CoreSt) (bs : List Nat) (n : Nat) : Prop extends Grow c c' bs where
  here : c'.here = c.here + n
  le : c.here ≤ TOP → c'.here ≤ TOP
  symtab : c'.symtab = c.symtab

namespace Adv
variable {c c' c'' : CoreSt} {bs bs' : List Nat} {n n' : Nat}

/-! The shapes of a single emitting step.  The hypotheses with a default hold by unfolding the step. -/

theorem append (hle : c.here ≤ TOP → c.here + n ≤ TOP)
    (hd : c'.dataRev = bs.reverse ++ c.dataRev := by rfl) (hl : c'.links = c.links := by rfl)
    (hh : c'.here = c.here + n := by rfl) (hs : c'.symtab = c.symtab := by rfl) : Adv c c' bs n :=
  ⟨.append hd hl, hh, fun h => hh ▸ hle h, hs⟩

theorem link {l : Link} (hle : c.here ≤ TOP → c.here + n ≤ TOP)
    (hl : c'.links = c.links ++ [l] := by rfl) (hoff : l.offset = c.dataLen := by rfl)
    (hd : c'.dataRev = (List.replicate l.len 0).reverse ++ c.dataRev := by rfl)
    (hb : bs = List.replicate l.len 0 := by rfl)
    (hh : c'.here = c.here + n := by rfl) (hs : c'.symtab = c.symtab := by rfl) : Adv c c' bs n :=
  hb ▸ ⟨.link l hd hl hoff, hh, fun h => hh ▸ hle h, hs⟩

theorem trans (h1 : Adv c c' bs n) (h2 : Adv c' c'' bs' n') : Adv c c'' (bs ++ bs') (n + n') :=
  ⟨h1.toGrow.trans h2.toGrow, by rw [h2.here, h1.here, Nat.add_assoc], fun h => h2.le (h1.le h),
    h2.symtab.trans h1.symtab⟩

theorem after (h0 : Adv c c' [] 0) (h : Adv c' c'' bs n) : Adv c c'' bs n := by
  simpa using h0.trans h

end Adv

theorem ok_of_ite {α} {b : Prop} [Decidable b] {e : Err} {x : Except Err α} {r : α}
    (h : (if b then .error e else x) = .ok r) : ¬ b ∧ x = .ok r := by
  split at h
  · cases h
  · exact ⟨‹_›, h⟩

namespace Eff
variable {c c' : CoreSt} {loc : Loc}

/-- The byte an `@db` item places; `none` is an operand deferred to link time, which places the 0
placeholder. -/
def byteOf : Option I32 → Nat
  | some v => lowByte v
  | none => 0

def wordOf : Option I32 → List Nat
  | some v => [u32 v % 256, u32 v / 256 % 256]
  | none => [0, 0]

/-- The byte `@ds` fills with: 0 both without a fill operand and with a deferred one. -/
def fillByte : Option (Option I32) → Nat
  | some (some v) => lowByte v
  | _ => 0

theorem label_eq_ok {d} : label c d loc = .ok c' ↔
    c.symtab.get d = none ∧ c' = c.insert d (.val (i32OfNat c.here)) := by
  unfold label
  cases c.symtab.get d <;> simp [eq_comm]

theorem org_ok {v} (h : org c v loc = .ok c') :
    ∃ x, v = some x ∧ u32 x ≤ 65535 ∧ c' = { c with here := u32 x } := by
  cases v with
  | none => cases h
  | some x =>
    obtain ⟨_, h⟩ := ok_of_ite h
    cases h; exact ⟨x, rfl, by omega, rfl⟩

theorem dbStr_adv {bytes} (h : dbStr c bytes loc = .ok c') : Adv c c' bytes bytes.length := by
  obtain ⟨_, h⟩ := ok_of_ite h
  cases h; exact .append (fun _ => by omega)

theorem dbVal_adv {v ns} (h : dbVal c v ns loc = .ok c') : Adv c c' [byteOf v] 1 := by
  cases v with
  | some v =>
    obtain ⟨_, h⟩ := ok_of_ite h
    obtain ⟨_, h⟩ := ok_of_ite h
    cases h; exact .append (fun _ => by omega)
  | none =>
    obtain ⟨_, h⟩ := ok_of_ite h
    cases h; exact .link (fun _ => by omega)

theorem dwVal_adv {v ns} (h : dwVal c v ns loc = .ok c') : Adv c c' (wordOf v) 2 := by
  cases v with
  | some v =>
    obtain ⟨_, h⟩ := ok_of_ite h
    obtain ⟨_, h⟩ := ok_of_ite h
    cases h; exact .append (fun _ => by omega)
  | none =>
    obtain ⟨_, h⟩ := ok_of_ite h
    cases h; exact .link (fun _ => by omega)

theorem skip_adv {n} (h : skip c n loc = .ok c') : Adv c c' [] n := by
  obtain ⟨_, h⟩ := ok_of_ite h
  cases h; exact .append (fun _ => by omega)

theorem dsSize_adv {v n} (h : dsSize c v loc = .ok (c', n)) :
    ∃ sz, v = some sz ∧ n = u32 sz ∧ n ≤ 65535 ∧ Adv c c' [] n := by
  cases v with
  | none => cases h
  | some sz =>
    obtain ⟨_, h⟩ := ok_of_ite h
    obtain ⟨_, h⟩ := ok_of_ite h
    cases h; exact ⟨sz, rfl, rfl, by omega, .append (fun _ => by omega)⟩

theorem dsFill_adv {n fill ns} (h : dsFill c n fill ns loc = .ok c') :
    Adv c c' (List.replicate n (fillByte fill)) 0 := by
  rcases fill with _ | _ | v
  · cases h; exact .append id
  · cases h; exact .link id
  · obtain ⟨_, h⟩ := ok_of_ite h
    cases h; exact .append id

theorem align_adv {code v} (h : align c code v loc = .ok c') :
    ∃ al, v = some al ∧ ¬ al.toInt < 2 ∧
      Adv c c' (if code then List.replicate ((u32 al - c.here % u32 al) % u32 al) 0 else [])
        ((u32 al - c.here % u32 al) % u32 al) := by
  cases v with
  | none => cases h
  | some al =>
    obtain ⟨hal, h⟩ := ok_of_ite h
    obtain ⟨_, h⟩ := ok_of_ite h
    obtain ⟨_, h⟩ := ok_of_ite h
    refine ⟨al, rfl, hal, ?_⟩
    cases code
    · rw [if_neg Bool.false_ne_true] at h; cases h; exact .append (fun _ => by omega)
    · rw [if_pos rfl] at h; cases h; exact .append (fun _ => by omega)

/-- `@incbin` byte by byte is `@incbin` at once: it fails iff the last byte would not fit.  The test
being made per byte, an empty file is accepted from any address, even one above `TOP` (which no run
reaches): hence `bytes ≠ []`. -/
theorem incbin_eq (c : CoreSt) (loc : Loc) (bytes : List Nat) :
    incbin c loc bytes =
      if bytes ≠ [] ∧ c.here + bytes.length > TOP then .error ⟨.addrOverflow, loc⟩
      else .ok { c.pushAll bytes with here := c.here + bytes.length } := by
  induction bytes generalizing c with
  | nil => simp [incbin, CoreSt.pushAll]
  | cons b r ih =>
    rw [incbin]
    split
    · rw [if_pos ⟨List.cons_ne_nil _ _, by rw [List.length_cons]; omega⟩]
    · have hl : c.here + 1 + r.length = c.here + (b :: r).length := by rw [List.length_cons]; omega
      rw [ih]
      simp only [hl, CoreSt.pushAll, CoreSt.push, List.reverse_cons, List.append_assoc,
        List.singleton_append]
      -- For `r = []` the guard `r ≠ []` of `ih` is vacuous, and the per-byte test that `split` has
      -- just refuted decides; otherwise both guards are the same sum by `hl`.
      cases r with
      | nil => simp; omega
      | cons => simp

theorem incbin_adv {bytes} (h : incbin c loc bytes = .ok c') : Adv c c' bytes bytes.length := by
  rw [incbin_eq] at h
  obtain ⟨hn, h⟩ := ok_of_ite h
  cases h
  exact .append fun h0 => Nat.le_of_not_gt fun ht =>
    hn ⟨fun hb => by subst hb; exact Nat.not_lt.2 h0 ht, ht⟩

theorem instrTail_adv {oldLen} (h : instrTail c oldLen loc = .ok c') :
    Adv c c' [] (c.dataLen - oldLen) := by
  obtain ⟨_, h⟩ := ok_of_ite h
  cases h; exact .append (fun _ => by omega)

theorem assert_adv {v ns msg} (h : assert c v ns msg loc = .ok c') : Adv c c' [] 0 := by
  cases v with
  | some v =>
    obtain ⟨_, h⟩ := ok_of_ite h
    cases h; exact .append id
  | none => cases h; exact ⟨.assertLink _ rfl rfl rfl, rfl, id, rfl⟩

theorem define_eq_ok {keep d ns} : define c keep d ns loc = .ok c' ↔
    c.symtab.get d = none ∧ c' = c.insertWithMeta d (.expr ns) (if keep then c.curMeta else []) := by
  unfold define
  cases c.symtab.get d <;> cases keep <;> simp [eq_comm, CoreSt.insert_eq]

theorem redefine_eq (c : CoreSt) (keep : Bool) (d : String) (ns : List Node) :
    redefine c keep d ns = c.insertWithMeta d (.expr ns) (if keep then c.curMeta else []) := by
  cases keep <;> rfl

theorem structField_eq_ok {d size fs txt r} : structField c d size fs txt loc = .ok r ↔
    c.symtab.get d = none ∧ r = (c.insertWithMeta d (.val size) [("@SIZEOF", txt)], size + fs) := by
  unfold structField
  cases c.symtab.get d <;> simp [eq_comm]

end Eff

/-- The name whose first reference reading a node records. -/
def Node.ref? : Node → Option String
  | .label n => if n = "@here" then none else some n
  | .sizeOf n => some n
  | _ => none

theorem labelNode_cases (c : CoreSt) (n : String) :
    (∃ v, labelNode c n = .val v) ∨ labelNode c n = .label n := by
  unfold labelNode
  (repeat' split) <;> simp

theorem labelNode_val (c : CoreSt) (n : String) (v : I32) (m : List (String × String))
    (h : c.symtab.get n = some ⟨.val v, m⟩) : labelNode c n = .val v := by
  simp [labelNode, h]

/-- The `evalAt (env.length + 2)` of `evaluate` unfolded once, which leaves `+ 1` for the recursion. -/
theorem evaluate_eq (env : Env) (ns : List Node) :
    evaluate env ns = evalList (evalAt (env.length + 1) env) env [] ns [] := rfl

theorem evaluate_val (env : Env) (v : I32) : evaluate env [.val v] = .ok v := by
  rw [evaluate_eq]
  simp only [evalList, Node.access, show pureStep (.val v) [] = .ok [v] from rfl]

namespace CoreSt

/-- What reading puts in a node's place: the address for `@here`, its value for a name that has
one now. -/
def inline (c : CoreSt) : Node → Node
  | .label n => if n = "@here" then .val (i32OfNat c.here) else labelNode c n
  | x => x

def touchAll (c : CoreSt) : List String → CoreSt
  | [] => c
  | n :: r => (c.touch n {}).touchAll r

theorem inline_here (c : CoreSt) : c.inline (.label "@here") = .val (i32OfNat c.here) := by
  simp only [inline, if_true]

theorem inline_label (c : CoreSt) {n : String} (h : n ≠ "@here") :
    c.inline (.label n) = labelNode c n := if_neg h

theorem inline_touch (c : CoreSt) (n : String) (loc : Loc) : (c.touch n loc).inline = c.inline := by
  rw [touch_eq]; rfl

theorem touchAll_eq (c : CoreSt) (ns : List String) :
    c.touchAll ns = { c with hits := (c.touchAll ns).hits } := by
  induction ns generalizing c with
  | nil => rfl
  | cons n r ih =>
    have h : ∀ H, ({ c.touch n {} with hits := H } : CoreSt) = { c with hits := H } := fun H => by
      rw [touch_eq]
    exact (ih _).trans (h _)

theorem mem_hits_touch (c : CoreSt) (n m : String) (loc : Loc) :
    m ∈ (c.touch n loc).hits.map (·.1) ↔ m ∈ c.hits.map (·.1) ∨ m = n := by
  unfold touch
  split
  · next h =>
    have hn : n ∈ c.hits.map (·.1) := by simpa using h
    exact ⟨.inl, fun hm => hm.elim id (· ▸ hn)⟩
  · simp

theorem mem_hits_touchAll (c : CoreSt) (ns : List String) (m : String) :
    m ∈ (c.touchAll ns).hits.map (·.1) ↔ m ∈ c.hits.map (·.1) ∨ m ∈ ns := by
  induction ns generalizing c with
  | nil => simp [touchAll]
  | cons n r ih => rw [touchAll, ih, mem_hits_touch, List.mem_cons, or_assoc]

end CoreSt

namespace AbsFrame
open Abs Eff

/-- Reading an expression is a map over its nodes and records the names met, in order: the
states threaded through differ in `hits` only, which no replacement looks at (`inline_touch`). -/
theorem resolve_eq (c : CoreSt) (e : List Node) :
    resolve c e = (c.touchAll (e.filterMap Node.ref?), e.map c.inline) := by
  induction e generalizing c with
  | nil => rfl
  | cons x r ih =>
    cases x with
    | label n =>
      by_cases hn : n = "@here"
      · simp [resolve, ih, hn, Node.ref?, CoreSt.inline]
      · simp [resolve, ih, hn, Node.ref?, CoreSt.inline, CoreSt.touchAll, CoreSt.inline_touch]
    | _ =>
      simp [resolve, ih, Node.ref?, CoreSt.inline, CoreSt.touchAll, CoreSt.inline_touch,
        List.filterMap_cons]

theorem resolve_snd (c : CoreSt) (e : List Node) : (resolve c e).2 = e.map c.inline := by
  rw [resolve_eq]

theorem mem_hits_resolve (c : CoreSt) (e : List Node) (m : String) :
    m ∈ (resolve c e).1.hits.map (·.1) ↔ m ∈ c.hits.map (·.1) ∨ m ∈ e.filterMap Node.ref? := by
  rw [resolve_eq]; exact c.mem_hits_touchAll _ m

theorem resolve_fst (c : CoreSt) (e : List Node) :
    (resolve c e).1 = { c with hits := (resolve c e).1.hits } := by
  rw [resolve_eq]; exact c.touchAll_eq _

-- `resolve_here` and `resolve_symtab` are in namespace `LinkLemmas`, their six siblings in `AbsFrame`:
-- a difference of name only, every file that uses them opens both.
@[simp] theorem _root_.Az65.LinkLemmas.resolve_here (c : CoreSt) (e : List Node) : (Abs.resolve c e).1.here = c.here := by
  rw [resolve_fst]
@[simp] theorem _root_.Az65.LinkLemmas.resolve_symtab (c : CoreSt) (e : List Node) : (Abs.resolve c e).1.symtab = c.symtab := by
  rw [resolve_fst]
@[simp] theorem resolve_dataRev (c : CoreSt) (e : List Node) : (resolve c e).1.dataRev = c.dataRev := by
  rw [resolve_fst]
@[simp] theorem resolve_links (c : CoreSt) (e : List Node) : (resolve c e).1.links = c.links := by
  rw [resolve_fst]
@[simp] theorem resolve_curMeta (c : CoreSt) (e : List Node) : (resolve c e).1.curMeta = c.curMeta := by
  rw [resolve_fst]
@[simp] theorem resolve_ns (c : CoreSt) (e : List Node) : (resolve c e).1.ns = c.ns := by
  rw [resolve_fst]
@[simp] theorem resolve_data (c : CoreSt) (e : List Node) : (resolve c e).1.data = c.data := by
  rw [resolve_fst]; rfl
@[simp] theorem resolve_dataLen (c : CoreSt) (e : List Node) : (resolve c e).1.dataLen = c.dataLen := by
  rw [resolve_fst]; rfl

theorem resolve_adv (c : CoreSt) (e : List Node) : Adv c (resolve c e).1 [] 0 :=
  .append id (resolve_dataRev c e) (resolve_links c e) (resolve_here c e) (resolve_symtab c e)

def pieceSize : Piece → Nat
  | .lit _ => 1
  | .byte _ => 1
  | .word _ => 2
  | .rel _ => 1

def pieceBytes : Piece → Option I32 → List Nat
  | .lit b, _ => [b]
  | .byte _, v => [byteOf v]
  | .word _, v => wordOf v
  | .rel _, v => [byteOf v]

theorem pieceBytes_length (p : Piece) (v : Option I32) : (pieceBytes p v).length = pieceSize p := by
  cases p <;> cases v <;> rfl

theorem piece_adv {c c' : CoreSt} {p : Piece} (h : piece c p = .ok c') :
    ∃ v, Adv c c' (pieceBytes p v) 0 := by
  cases p with
  | lit b => cases h; exact ⟨none, .append id⟩
  | byte e | word e | rel e =>
    simp only [piece] at h
    have hr := resolve_adv c e
    generalize resolve c e = r at h hr
    split at h
    · cases h
    · next v _ =>
      split at h
      · cases h
      · cases h; exact ⟨some v, hr.after (.append id)⟩
    · cases h; exact ⟨none, hr.after (.link id)⟩

theorem pieces_adv {c c' : CoreSt} {ps : List Piece} (h : pieces c ps = .ok c') :
    ∃ bs, bs.length = (ps.map pieceSize).sum ∧ Adv c c' bs 0 := by
  fun_induction pieces c ps with
  | case1 c => cases h; exact ⟨[], rfl, .append id⟩
  | case2 c p r e hp => cases h
  | case3 c p r c1 hp ih =>
    obtain ⟨v, h1⟩ := piece_adv hp
    obtain ⟨b2, hl2, h2⟩ := ih h
    exact ⟨_, by simp [pieceBytes_length, hl2], h1.trans h2⟩

theorem instr_adv {c c1 c' : CoreSt} {ps : List Piece} {loc : Loc} (hp : pieces c ps = .ok c1)
    (he : instrTail c1 c.dataLen loc = .ok c') :
    ∃ bs, bs.length = (ps.map pieceSize).sum ∧ Adv c c' bs bs.length := by
  obtain ⟨bs, hl, a⟩ := pieces_adv hp
  have ht := instrTail_adv he
  rw [dataLen_sub a.data] at ht
  exact ⟨bs, hl, by simpa using a.trans ht⟩

section member
variable {sname : String} {c c' : CoreSt} {size size' : I32}

theorem member_field_ok {n : String} {e : List Node}
    (h : member sname c size (.field n e) = .ok (c', size')) :
    ∃ fs, ev (resolve c e).1 (resolve c e).2 = .ok (some fs) ∧ c.symtab.get ((sname ++ "." ++ n)) = none ∧
      c' = (resolve c e).1.insertWithMeta ((sname ++ "." ++ n)) (.val size)
        [("@SIZEOF", toString fs.toInt)] ∧ size' = size + fs := by
  simp only [member] at h
  generalize hr : resolve c e = r at h ⊢
  split at h
  · cases h
  · cases h
  · next fs hv =>
    obtain ⟨hn, hc⟩ := structField_eq_ok.1 h
    cases hc
    exact ⟨fs, hv, by rw [← hn, ← hr, resolve_symtab], rfl, rfl⟩

theorem member_pad_ok {e : List Node} (h : member sname c size (.pad e) = .ok (c', size')) :
    ∃ p, ev (resolve c e).1 (resolve c e).2 = .ok (some p) ∧ c' = (resolve c e).1 ∧
      size' = size + p := by
  simp only [member] at h
  generalize resolve c e = r at h ⊢
  split at h
  · cases h
  · cases h
  · next p hv => cases h; exact ⟨p, hv, rfl, rfl⟩

theorem member_align_ok {e : List Node} (h : member sname c size (.align e) = .ok (c', size')) :
    ∃ a, ev (resolve c e).1 (resolve c e).2 = .ok (some a) ∧ ¬ a.toInt < 2 ∧ c' = (resolve c e).1 ∧
      size' = size + structPadding size a := by
  simp only [member] at h
  generalize resolve c e = r at h ⊢
  split at h
  · cases h
  · cases h
  · next a hv =>
    split at h
    · cases h
    · next ha => cases h; exact ⟨a, hv, ha, rfl, rfl⟩

theorem member_frame {m : Member} (h : member sname c size m = .ok (c', size')) :
    c' = { c with hits := c'.hits, symtab := c'.symtab } ∧
    ∀ k, c'.symtab.get k = c.symtab.get k ∨
      (c.symtab.get k = none ∧ ∃ n e, m = .field n e ∧ k = sname ++ "." ++ n) := by
  cases m with
  | field n e =>
    obtain ⟨_, _, hn, rfl, _⟩ := member_field_ok h
    refine ⟨by rw [resolve_fst]; rfl, fun k => ?_⟩
    by_cases hk : sname ++ "." ++ n = k
    · exact .inr ⟨hk ▸ hn, n, e, rfl, hk.symm⟩
    · exact .inl (by rw [CoreSt.insertWithMeta_get_of_ne _ _ _ hk, resolve_symtab])
  | pad e =>
    obtain ⟨_, _, rfl, _⟩ := member_pad_ok h
    exact ⟨by rw [resolve_fst], fun k => .inl (by rw [resolve_symtab])⟩
  | align e =>
    obtain ⟨_, _, _, rfl, _⟩ := member_align_ok h
    exact ⟨by rw [resolve_fst], fun k => .inl (by rw [resolve_symtab])⟩

theorem members_cons {m : Member} {r : List Member}
    (h : members sname c size (m :: r) = .ok (c', size')) :
    ∃ c1 size1, member sname c size m = .ok (c1, size1) ∧ members sname c1 size1 r = .ok (c', size') := by
  simp only [members] at h
  split at h
  · cases h
  · next c1 s1 hp => exact ⟨c1, s1, hp, h⟩

theorem members_frame {ms : List Member} (h : members sname c size ms = .ok (c', size')) :
    (∃ hs t, c' = { c with hits := hs, symtab := t }) ∧
    ∀ k, c'.symtab.get k = c.symtab.get k ∨
      (c.symtab.get k = none ∧ ∃ n e, Member.field n e ∈ ms ∧ k = sname ++ "." ++ n) := by
  induction ms generalizing c size with
  | nil => cases h; exact ⟨⟨_, _, rfl⟩, fun _ => .inl rfl⟩
  | cons m r ih =>
    obtain ⟨c1, s1, hm, hr⟩ := members_cons h
    obtain ⟨hc1, hk1⟩ := member_frame hm
    obtain ⟨⟨hs, t, rfl⟩, hkr⟩ := ih hr
    refine ⟨⟨hs, t, by rw [hc1]⟩, fun k => ?_⟩
    rcases hk1 k with h1 | ⟨h1, n, e, rfl, hk⟩
    · rcases hkr k with h2 | ⟨h2, n, e, hmem, hk⟩
      · exact .inl (h2.trans h1)
      · exact .inr ⟨h1 ▸ h2, n, e, List.mem_cons_of_mem _ hmem, hk⟩
    · exact .inr ⟨h1, n, e, List.mem_cons_self, hk⟩

theorem members_mono {ms : List Member} (h : members sname c size ms = .ok (c', size'))
    {k : String} {en : Entry} (hk : c.symtab.get k = some en) : c'.symtab.get k = some en :=
  ((members_frame h).2 k).elim (· ▸ hk) fun ⟨hn, _⟩ => nomatch hn.symm.trans hk

end member

theorem map_ok {x : Except Err CoreSt} {s s' : State}
    (h : (x.map fun c => ({ s with core := c } : State)) = .ok s') :
    ∃ c, x = .ok c ∧ s' = { s with core := c } := by
  cases x with
  | error e => cases h
  | ok c => exact ⟨c, rfl, by cases h; rfl⟩

/-- Inversion of `exec`, kind by kind: the operands are read (`resolve`) and evaluated (`ev`) in
source order, each in the state the one before it left, then the effect is applied. -/
theorem exec_ok {s s' : State} {st : Stmt} (h : exec s st = .ok s') :
    match (generalizing := false) st with
    | .label d => ∃ c', Eff.label s.core d {} = .ok c' ∧ s' = { s with core := c' }
    | .org e => ∃ v c', ev (resolve s.core e).1 (resolve s.core e).2 = .ok v ∧
        Eff.org (resolve s.core e).1 v {} = .ok c' ∧ s' = { s with core := c' }
    | .dbStr bytes =>
        (s.code = true ∧ ∃ c', Eff.dbStr s.core bytes {} = .ok c' ∧ s' = { s with core := c' }) ∨
        (s.code = false ∧ ∃ c', Eff.skip s.core 1 {} = .ok c' ∧ s' = { s with core := c' })
    | .dbVal e =>
        (s.code = true ∧ ∃ v c', ev (resolve s.core e).1 (resolve s.core e).2 = .ok v ∧
          Eff.dbVal (resolve s.core e).1 v (resolve s.core e).2 {} = .ok c' ∧
          s' = { s with core := c' }) ∨
        (s.code = false ∧ ∃ c', Eff.skip s.core 1 {} = .ok c' ∧ s' = { s with core := c' })
    | .dwVal e =>
        (s.code = true ∧ ∃ v c', ev (resolve s.core e).1 (resolve s.core e).2 = .ok v ∧
          Eff.dwVal (resolve s.core e).1 v (resolve s.core e).2 {} = .ok c' ∧
          s' = { s with core := c' }) ∨
        (s.code = false ∧ ∃ c', Eff.skip s.core 2 {} = .ok c' ∧ s' = { s with core := c' })
    | .ds size fill => ∃ v c1 n, ev (resolve s.core size).1 (resolve s.core size).2 = .ok v ∧
        Eff.dsSize (resolve s.core size).1 v {} = .ok (c1, n) ∧
        ((s.code = false ∧ s' = { s with core := c1 }) ∨
         (s.code = true ∧ fill = none ∧
            ∃ c', Eff.dsFill c1 n none [] {} = .ok c' ∧ s' = { s with core := c' }) ∨
         (s.code = true ∧ ∃ fe fv c', fill = some fe ∧
            ev (resolve c1 fe).1 (resolve c1 fe).2 = .ok fv ∧
            Eff.dsFill (resolve c1 fe).1 n (some fv) (resolve c1 fe).2 {} = .ok c' ∧
            s' = { s with core := c' }))
    | .align e => ∃ v c', ev (resolve s.core e).1 (resolve s.core e).2 = .ok v ∧
        Eff.align (resolve s.core e).1 s.code v {} = .ok c' ∧ s' = { s with core := c' }
    | .incbin bytes =>
        s.code = true ∧ ∃ c', Eff.incbin s.core {} bytes = .ok c' ∧ s' = { s with core := c' }
    | .instr ps => s.code = true ∧ ∃ c1 c', pieces s.core ps = .ok c1 ∧
        Eff.instrTail c1 s.core.dataLen {} = .ok c' ∧ s' = { s with core := c' }
    | .assert e => ∃ v c', ev (resolve s.core e).1 (resolve s.core e).2 = .ok v ∧
        Eff.assert (resolve s.core e).1 v (resolve s.core e).2 none {} = .ok c' ∧
        s' = { s with core := c' }
    | .define keep d e => (s.core.symtab.get d).isSome = false ∧
        ∃ c', Eff.define (resolve s.core e).1 keep d (resolve s.core e).2 {} = .ok c' ∧
          s' = { s with core := c' }
    | .redefine keep d e =>
        s' = { s with core := Eff.redefine (resolve s.core e).1 keep d (resolve s.core e).2 }
    | .undef d => s' = { s with core := Eff.undef s.core d }
    | .segment code => s' = { s with code := code }
    | .struct name ms => (s.core.symtab.get name).isSome = false ∧
        ∃ c size, members name { s.core with ns := some name } 0 ms = .ok (c, size) ∧
          s' = { s with core := ({ c with ns := s.core.ns }).insertWithMeta name (.val size) [] } := by
  cases st with
  | label d => exact map_ok h
  | org e | align e | assert e =>
    simp only [exec] at h
    split at h
    · cases h
    · next v hv => obtain ⟨c', hc, rfl⟩ := map_ok h; exact ⟨v, c', hv, hc, rfl⟩
  | dbStr bytes =>
    simp only [exec] at h
    split at h
    · next hc => exact .inl ⟨hc, map_ok h⟩
    · next hc => exact .inr ⟨by simpa using hc, map_ok h⟩
  | dbVal e | dwVal e =>
    simp only [exec] at h
    split at h
    · next hc =>
      split at h
      · cases h
      · next v hv => obtain ⟨c', he, rfl⟩ := map_ok h; exact .inl ⟨hc, v, c', hv, he, rfl⟩
    · next hc => exact .inr ⟨by simpa using hc, map_ok h⟩
  | ds size fill =>
    simp only [exec] at h
    split at h
    · cases h
    · next v hv =>
      split at h
      · cases h
      · next c1 n hsz =>
        refine ⟨v, c1, n, hv, hsz, ?_⟩
        split at h
        · next hc =>
          split at h
          · exact .inr (.inl ⟨hc, rfl, map_ok h⟩)
          · next fe =>
            split at h
            · cases h
            · next fv hfv =>
              obtain ⟨c', he, rfl⟩ := map_ok h
              exact .inr (.inr ⟨hc, fe, fv, c', rfl, hfv, he, rfl⟩)
        · next hc => cases h; exact .inl ⟨by simpa using hc, rfl⟩
  | incbin bytes =>
    simp only [exec] at h
    split at h
    · next hc => exact ⟨hc, map_ok h⟩
    · cases h
  | instr ps =>
    simp only [exec] at h
    split at h
    · next hc =>
      split at h
      · cases h
      · next c1 hp => obtain ⟨c', he, rfl⟩ := map_ok h; exact ⟨hc, c1, c', hp, he, rfl⟩
    · cases h
  | define keep d e =>
    simp only [exec] at h
    split at h
    · cases h
    · next hd => exact ⟨by simpa using hd, map_ok h⟩
  | redefine keep d e | undef d | segment code => cases h; rfl
  | struct name ms =>
    simp only [exec] at h
    split at h
    · cases h
    · next hd =>
      refine ⟨by simpa using hd, ?_⟩
      split at h
      · cases h
      · next c size hm => cases h; exact ⟨c, size, hm, rfl⟩

theorem exec_redefine (s : State) (keep : Bool) (d : String) (e : List Node) :
    exec s (.redefine keep d e) =
      .ok { s with core := Eff.redefine (resolve s.core e).1 keep d (resolve s.core e).2 } := rfl

theorem exec_undef (s : State) (d : String) :
    exec s (.undef d) = .ok { s with core := Eff.undef s.core d } := rfl

theorem run_cons {s s' : State} {st : Stmt} {r : List Stmt} (h : run s (st :: r) = .ok s') :
    ∃ s1, exec s st = .ok s1 ∧ run s1 r = .ok s' := by
  simp only [run] at h
  split at h
  · cases h
  · next s1 hs => exact ⟨s1, hs, h⟩

theorem run_nil {s s' : State} (h : run s [] = .ok s') : s' = s := by
  simp only [run] at h; cases h; rfl

theorem run_append {s s'' : State} {p q : List Stmt} (h : run s (p ++ q) = .ok s'') :
    ∃ s', run s p = .ok s' ∧ run s' q = .ok s'' := by
  induction p generalizing s with
  | nil => exact ⟨s, rfl, h⟩
  | cons st r ih =>
    obtain ⟨s1, hs, hr⟩ := run_cons (by simpa using h)
    obtain ⟨s', hp, hq⟩ := ih hr
    exact ⟨s', by simp only [run, hs, hp], hq⟩


/-- What every accepted statement does, one clause per use (`wf`: C05; `data`, `addr`, `here`,
`code`: C06; `le`, `entry`: C07; `data`, `symtab`: C08).  It places some bytes `bs` (none in an ADDR
segment) after the image, keeps the pending patch ranges well-formed, moves the address by
`bs.length` in a CODE segment (`@org` apart) and never above `TOP`; only `@segment` changes the
segment kind, only the five defining kinds change the symbol table, and only `@redef*`/`@undef` of a
name disturb its entry. -/
structure Step (s : State) (st : Stmt) (s' : State) (bs : List Nat) : Prop
    extends Grow s.core s'.core bs where
  symtab : match st with
    | .label _ | .define .. | .redefine .. | .undef _ | .struct .. => True
    | _ => s'.core.symtab = s.core.symtab
  addr : s.code = false → bs = []
  here : (∀ e, st ≠ .org e) → s.code = true → s'.core.here = s.core.here + bs.length
  le : s.core.here ≤ TOP → s'.core.here ≤ TOP
  code : (∀ b, st ≠ .segment b) → s'.code = s.code
  entry : ∀ {d x}, (∀ k e, st ≠ .redefine k d e) → st ≠ .undef d →
    s.core.symtab.get d = some x → s'.core.symtab.get d = some x

namespace Step
variable {s : State} {st : Stmt} {c' : CoreSt}

theorem of_adv {bs n} (ha : Adv s.core c' bs n) (hc : s.code = true → bs.length = n)
    (hb : s.code = false → bs = []) : Step s st { s with core := c' } bs where
  toGrow := ha.toGrow
  addr := hb
  here _ h := by rw [hc h]; exact ha.here
  le := ha.le
  code _ := rfl
  symtab := by split <;> first | trivial | exact ha.symtab
  entry _ _ hx := by show c'.symtab.get _ = _; rw [ha.symtab, hx]

theorem of_def (hd : c'.dataRev = s.core.dataRev) (hl : c'.links = s.core.links)
    (hh : c'.here = s.core.here)
    (hs : match st with
      | .label _ | .define .. | .redefine .. | .undef _ | .struct .. => True
      | _ => c'.symtab = s.core.symtab)
    (he : ∀ {d x}, (∀ k e, st ≠ .redefine k d e) → st ≠ .undef d →
      s.core.symtab.get d = some x → c'.symtab.get d = some x) :
    Step s st { s with core := c' } [] where
  toGrow := .append hd hl
  addr _ := rfl
  here _ _ := hh
  le h := hh ▸ h
  code _ := rfl
  symtab := hs
  entry := he

end Step

theorem exec_step {s s' : State} {st : Stmt} (h : exec s st = .ok s') : ∃ bs, Step s st s' bs := by
  cases st with
  | label d =>
    obtain ⟨c', hc, rfl⟩ := exec_ok h
    obtain ⟨hn, rfl⟩ := label_eq_ok.1 hc
    exact ⟨[], .of_def rfl rfl rfl trivial fun _ _ hx => Env.get_set_of_absent _ _ hn hx⟩
  | org e =>
    obtain ⟨v, c', _, hc, rfl⟩ := exec_ok h
    obtain ⟨x, _, hx, rfl⟩ := org_ok hc
    exact ⟨[], {
      toGrow := .append (resolve_dataRev ..) (resolve_links ..)
      symtab := resolve_symtab ..
      addr _ := rfl
      here ho := absurd rfl (ho e)
      le _ := by show u32 x ≤ TOP; unfold TOP; omega
      code _ := rfl
      entry _ _ hx := by show (resolve s.core e).1.symtab.get _ = _; rw [resolve_symtab, hx] }⟩
  | dbStr bytes =>
    rcases exec_ok h with ⟨hc, c', he, rfl⟩ | ⟨hc, c', he, rfl⟩
    · exact ⟨bytes, .of_adv (dbStr_adv he) (fun _ => rfl) (by simp [hc])⟩
    · exact ⟨[], .of_adv (skip_adv he) (by simp [hc]) (fun _ => rfl)⟩
  | dbVal e =>
    rcases exec_ok h with ⟨hc, v, c', _, he, rfl⟩ | ⟨hc, c', he, rfl⟩
    · exact ⟨_, .of_adv ((resolve_adv ..).after (dbVal_adv he)) (fun _ => rfl) (by simp [hc])⟩
    · exact ⟨[], .of_adv (skip_adv he) (by simp [hc]) (fun _ => rfl)⟩
  | dwVal e =>
    rcases exec_ok h with ⟨hc, v, c', _, he, rfl⟩ | ⟨hc, c', he, rfl⟩
    · exact ⟨_, .of_adv ((resolve_adv ..).after (dwVal_adv he)) (fun _ => by cases v <;> rfl)
        (by simp [hc])⟩
    · exact ⟨[], .of_adv (skip_adv he) (by simp [hc]) (fun _ => rfl)⟩
  | ds size fill =>
    obtain ⟨v, c1, n, _, hsz, hrest⟩ := exec_ok h
    obtain ⟨_, _, _, _, h1⟩ := dsSize_adv hsz
    have h1 := (resolve_adv ..).after h1
    rcases hrest with ⟨hc, rfl⟩ | ⟨hc, _, c', he, rfl⟩ | ⟨hc, fe, fv, c', _, _, he, rfl⟩
    · exact ⟨[], .of_adv h1 (by simp [hc]) (fun _ => rfl)⟩
    · exact ⟨_, .of_adv (by simpa using h1.trans (dsFill_adv he)) (by simp) (by simp [hc])⟩
    · exact ⟨_, .of_adv (by simpa using h1.trans ((resolve_adv ..).after (dsFill_adv he))) (by simp)
        (by simp [hc])⟩
  | align e =>
    obtain ⟨v, c', _, he, rfl⟩ := exec_ok h
    obtain ⟨al, _, _, ha⟩ := align_adv he
    exact ⟨_, .of_adv ((resolve_adv ..).after ha) (fun hc => by simp [hc]) (fun hc => by simp [hc])⟩
  | incbin bytes =>
    obtain ⟨hc, c', he, rfl⟩ := exec_ok h
    exact ⟨bytes, .of_adv (incbin_adv he) (fun _ => rfl) (by simp [hc])⟩
  | instr ps =>
    obtain ⟨hc, c1, c', hp, he, rfl⟩ := exec_ok h
    obtain ⟨bs, _, a⟩ := instr_adv hp he
    exact ⟨bs, .of_adv a (fun _ => rfl) (by simp [hc])⟩
  | assert e =>
    obtain ⟨v, c', _, he, rfl⟩ := exec_ok h
    exact ⟨[], .of_adv ((resolve_adv ..).after (assert_adv he)) (fun _ => rfl) (fun _ => rfl)⟩
  | define keep d e =>
    obtain ⟨hn, c', hc, rfl⟩ := exec_ok h
    obtain ⟨_, rfl⟩ := define_eq_ok.1 hc
    exact ⟨[], .of_def (resolve_dataRev ..) (resolve_links ..) (resolve_here ..) trivial
      fun _ _ hx => Env.get_set_of_absent _ _ (by simpa using hn) (by simpa using hx)⟩
  | redefine keep d e =>
    cases exec_ok h
    rw [redefine_eq]
    exact ⟨[], .of_def (resolve_dataRev ..) (resolve_links ..) (resolve_here ..) trivial
      fun hr _ hx => by
        rw [CoreSt.insertWithMeta_get_of_ne _ _ _ (fun hd => hr keep e (by rw [hd]))]; simpa using hx⟩
  | undef d =>
    cases exec_ok h
    exact ⟨[], .of_def rfl rfl rfl trivial
      fun _ hu hx => (Env.get_remove_of_ne _ (fun hd => hu (by rw [hd]))).trans hx⟩
  | segment b =>
    cases exec_ok h
    exact ⟨[], {
      toGrow := .append rfl rfl
      symtab := rfl
      addr _ := rfl
      here _ _ := rfl
      le := id
      code hb := absurd rfl (hb b)
      entry _ _ := id }⟩
  | struct name ms =>
    obtain ⟨hn, c, size, hm, rfl⟩ := exec_ok h
    obtain ⟨_, _, rfl⟩ := (members_frame hm).1
    exact ⟨[], .of_def rfl rfl rfl trivial
      fun _ _ hx => by
        rw [CoreSt.insertWithMeta_get_of_ne _ _ _ (fun hd => by rw [hd, hx] at hn; cases hn)]
        exact members_mono hm hx⟩

theorem exec_grow {s s' : State} {st : Stmt} (h : exec s st = .ok s') :
    ∃ bs, Grow s.core s'.core bs :=
  (exec_step h).imp fun _ hs => hs.toGrow

theorem run_inv {P : State → Prop} {prog : List Stmt}
    (hstep : ∀ st ∈ prog, ∀ {s s'}, P s → exec s st = .ok s' → P s') {s s' : State} (h0 : P s)
    (h : run s prog = .ok s') : P s' := by
  induction prog generalizing s with
  | nil => rw [run_nil h]; exact h0
  | cons st r ih =>
    obtain ⟨s1, hs, hr⟩ := run_cons h
    exact ih (fun st' hm => hstep st' (List.mem_cons_of_mem _ hm)) (hstep st List.mem_cons_self h0 hs) hr

theorem run_grow {s s' : State} {prog : List Stmt} (h : run s prog = .ok s') :
    ∃ bs, Grow s.core s'.core bs :=
  run_inv (P := fun s' => ∃ bs, Grow s.core s'.core bs)
    (fun _ _ _ _ ⟨_, h1⟩ he => let ⟨_, h2⟩ := exec_grow he; ⟨_, h1.trans h2⟩) ⟨[], .append rfl rfl⟩ h

/-- A component of the core state that reference recording, byte emission and link recording
leave alone; `frame_ns` and `frame_curMeta` record it of `ns` and `curMeta`.  The theorems of C05–C08
do not go through it (C08 needs such a fact of reading alone: `resolve_curMeta`). -/
structure Frame {α} (f : CoreSt → α) : Prop where
  hits : ∀ (c : CoreSt) h, f { c with hits := h } = f c
  push : ∀ (c : CoreSt) b, f (c.push b) = f c
  link : ∀ (c : CoreSt) l, f (c.addLink l) = f c

theorem frame_ns : Frame (·.ns) := ⟨fun _ _ => rfl, fun _ _ => rfl, fun _ _ => rfl⟩
theorem frame_curMeta : Frame (·.curMeta) := ⟨fun _ _ => rfl, fun _ _ => rfl, fun _ _ => rfl⟩

end AbsFrame
end Az65
