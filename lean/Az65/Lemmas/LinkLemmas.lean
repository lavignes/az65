import Az65.Model.Link
/-
Deferred patches.  `Wf links data` is what holds of the patches registered so far, from the moment
an emitter registers one until `Module::link` applies them: each covers a range inside the image,
after every earlier range, still filled with its zero placeholder.  The emitters make three moves
on (links, data) — append bytes; register a link at the end of the image and push `len` zeros;
register an assertion, which has no range — and all keep it (`append_data`, `snoc`).
`CoreSt.touch_eq` stands here because the expression-parser proofs (`Thm/C04Parse.lean`) use it as
well as `Lemmas/AbsFrame.lean`.
-/
namespace Az65.LinkLemmas
open Az65

theorem patchAt_mid (xs ys bs : List Nat) (n : Nat) (h : bs.length = n) :
    patchAt (xs ++ List.replicate n 0 ++ ys) xs.length bs = xs ++ bs ++ ys := by
  subst h
  unfold patchAt
  have h1 : (xs ++ List.replicate bs.length 0 ++ ys).take xs.length = xs := by
    rw [List.append_assoc, List.take_left']; rfl
  have h2 : (xs ++ List.replicate bs.length 0 ++ ys).drop (xs.length + bs.length) = ys := by
    have : xs.length + bs.length = (xs ++ List.replicate bs.length 0).length := by simp
    rw [this, List.drop_left']; rfl
  rw [h1, h2]

theorem patchAt_length (d bs : List Nat) (off : Nat) (h : off + bs.length ≤ d.length) :
    (patchAt d off bs).length = d.length := by
  unfold patchAt
  simp only [List.length_append, List.length_take, List.length_drop]
  omega

theorem patchAt_getElem?_outside (d bs : List Nat) (off i : Nat) (h : off + bs.length ≤ d.length)
    (hi : i < off ∨ off + bs.length ≤ i) : (patchAt d off bs)[i]? = d[i]? := by
  unfold patchAt
  rcases hi with hi | hi
  · rw [List.append_assoc, List.getElem?_append_left (by simp; omega), List.getElem?_take]
    simp [hi]
  · have hl : (List.take off d ++ bs).length = off + bs.length := by
      simp only [List.length_append, List.length_take]; omega
    rw [List.getElem?_append_right (by omega), hl, List.getElem?_drop]
    congr 1; omega

/-- Every range `[offset, offset + len)` lies inside the image, the ranges come in registration
order (hence are pairwise disjoint), and each still holds zeros.  An assertion link has no range. -/
structure Wf (ls : List Link) (d : List Nat) : Prop where
  inside : ∀ l ∈ ls, l.kind ≠ .assert → l.offset + l.len ≤ d.length
  disjoint : ls.Pairwise (fun l1 l2 => l1.kind = .assert ∨ l2.kind = .assert ∨ l1.offset + l1.len ≤ l2.offset)
  zero : ∀ l ∈ ls, l.kind ≠ .assert → ∀ i < l.len, d[l.offset + i]? = some 0

theorem Wf.nil : Wf [] [] := ⟨(fun _ h => nomatch h), .nil, (fun _ h => nomatch h)⟩

theorem Wf.append_data {ls : List Link} {d : List Nat} (h : Wf ls d) (bs : List Nat) :
    Wf ls (d ++ bs) := by
  refine ⟨?_, h.disjoint, ?_⟩
  · intro l hl hk
    have := h.inside l hl hk
    simp only [List.length_append]; omega
  · intro l hl hk i hi
    have h1 := h.inside l hl hk
    rw [List.getElem?_append_left (by omega)]
    exact h.zero l hl hk i hi

theorem Wf.snoc {ls : List Link} {d : List Nat} (h : Wf ls d) (l : Link)
    (hl : l.kind ≠ .assert → l.offset + l.len ≤ d.length ∧
      (∀ a ∈ ls, a.kind ≠ .assert → a.offset + a.len ≤ l.offset) ∧
      ∀ i < l.len, d[l.offset + i]? = some 0) : Wf (ls ++ [l]) d := by
  refine ⟨fun m hm hk => ?_, ?_, fun m hm hk => ?_⟩
  · rcases List.mem_append.1 hm with hm | hm
    · exact h.inside m hm hk
    · cases List.mem_singleton.1 hm; exact (hl hk).1
  · refine List.pairwise_append.2 ⟨h.disjoint, List.pairwise_singleton .., fun a ha b hb => ?_⟩
    cases List.mem_singleton.1 hb
    by_cases hka : a.kind = .assert
    · exact .inl hka
    by_cases hkl : l.kind = .assert
    · exact .inr (.inl hkl)
    · exact .inr (.inr ((hl hkl).2.1 a ha hka))
  · rcases List.mem_append.1 hm with hm | hm
    · exact h.zero m hm hk
    · cases List.mem_singleton.1 hm; exact (hl hk).2.2

theorem Wf.add_link {ls : List Link} {d : List Nat} (h : Wf ls d) (l : Link)
    (hoff : l.offset = d.length) :
    Wf (ls ++ [l]) (d ++ List.replicate l.len 0) :=
  (h.append_data _).snoc l fun _ =>
    ⟨by simp [hoff], fun a ha hka => hoff ▸ h.inside a ha hka, fun i hi => by
      rw [hoff, List.getElem?_append_right (by omega)]; simp [hi]⟩

theorem Wf.add_assert {ls : List Link} {d : List Nat} (h : Wf ls d) (l : Link)
    (hk : l.kind = .assert) : Wf (ls ++ [l]) d :=
  h.snoc l fun hk' => absurd hk hk'

@[simp] theorem data_push (c : CoreSt) (b : Nat) : (c.push b).data = c.data ++ [b] := by
  simp [CoreSt.push, CoreSt.data]

@[simp] theorem data_pushAll (c : CoreSt) (bs : List Nat) : (c.pushAll bs).data = c.data ++ bs := by
  simp [CoreSt.pushAll, CoreSt.data]

@[simp] theorem data_addLink (c : CoreSt) (l : Link) : (c.addLink l).data = c.data := rfl

@[simp] theorem links_push (c : CoreSt) (b : Nat) : (c.push b).links = c.links := rfl
@[simp] theorem links_pushAll (c : CoreSt) (bs : List Nat) : (c.pushAll bs).links = c.links := rfl
@[simp] theorem links_addLink (c : CoreSt) (l : Link) : (c.addLink l).links = c.links ++ [l] := rfl

theorem dataLen_eq (c : CoreSt) : c.dataLen = c.data.length := by
  simp [CoreSt.dataLen, CoreSt.data]

theorem dataLen_sub {c c' : CoreSt} {bs : List Nat} (h : c'.data = c.data ++ bs) :
    c'.dataLen - c.dataLen = bs.length := by
  rw [dataLen_eq, dataLen_eq, h, List.length_append, Nat.add_sub_cancel_left]

theorem _root_.Az65.CoreSt.touch_eq (c : CoreSt) (n : String) (loc : Loc) :
    c.touch n loc = { c with hits := (c.touch n loc).hits } := by
  unfold CoreSt.touch; split <;> rfl

/-- `c'` has the pending links and the image bytes of `c`, as after a step that emits nothing.  The
theorems of C05–C08 do not go through it. -/
structure SameOut (c c' : CoreSt) : Prop where
  links : c'.links = c.links
  dataRev : c'.dataRev = c.dataRev

theorem SameOut.refl (c : CoreSt) : SameOut c c := ⟨rfl, rfl⟩

theorem SameOut.trans {a b c : CoreSt} (h1 : SameOut a b) (h2 : SameOut b c) : SameOut a c :=
  ⟨h2.links.trans h1.links, h2.dataRev.trans h1.dataRev⟩

theorem SameOut.dataLen {c c' : CoreSt} (h : SameOut c c') : c'.dataLen = c.dataLen := by
  simp [CoreSt.dataLen, h.dataRev]

end Az65.LinkLemmas
