import Az65.Model.ExprParse
import Az65.Model.Plain
/-
The plain token supply `plainOps` on an explicit token list (`peek_cons` … `setC_mk`; of these C10
and C11 use `next_cons`, for `oneArgG` and `skipIfG` over `plainOps`), and the expression ladder
(`parsePrec` / `parseLoop`) instantiated at it: one equation per path the proof of
`C04Parse.parse_render` walks.
-/
namespace Az65.ParseLemmas
open Az65

@[simp] theorem peek_cons (t : LTok) (r : List LTok) (core : CoreSt) (cur : Loc) :
    plainOps.peek ⟨t :: r, core, cur⟩ = .ok (some t, ⟨t :: r, core, t.loc⟩) := rfl
@[simp] theorem peek_nil (core : CoreSt) (cur : Loc) :
    plainOps.peek ⟨[], core, cur⟩ = .ok (none, ⟨[], core, cur⟩) := rfl
@[simp] theorem next_cons (t : LTok) (r : List LTok) (core : CoreSt) (cur : Loc) :
    plainOps.next ⟨t :: r, core, cur⟩ = .ok (some t, ⟨r, core, t.loc⟩) := rfl
@[simp] theorem next_nil (core : CoreSt) (cur : Loc) :
    plainOps.next ⟨[], core, cur⟩ = .ok (none, ⟨[], core, cur⟩) := rfl
@[simp] theorem getC_mk (toks : List LTok) (core : CoreSt) (cur : Loc) :
    plainOps.getC ⟨toks, core, cur⟩ = core := rfl
@[simp] theorem setC_mk (toks : List LTok) (core c : CoreSt) (cur : Loc) :
    plainOps.setC ⟨toks, core, cur⟩ c = ⟨toks, c, cur⟩ := rfl

variable {σ : Type}

theorem parsePrec_prim (ops : TokOps σ) (f : Nat) {k : Nat} (hk : 11 ≤ k) (nodes : List Node)
    (s : σ) : parsePrec ops f k nodes s = parsePrec ops f 11 nodes s := by
  cases f with
  | zero => rfl
  | succ f =>
    rw [parsePrec, parsePrec, if_neg (by omega), if_neg (by omega), if_neg (by decide),
      if_neg (by decide)]

-- `pp_*`: a path through `parsePrec plainOps`; `pl_*`: through `parseLoop plainOps`.  What the
-- sub-parses on the path return is a hypothesis, so `C04Parse` never unfolds the ladder itself.
theorem pp_bin {f k : Nat} {nodes : List Node} {s : PlainSt} (h1 : 1 ≤ k) (h2 : k ≤ 10)
    {loc nodes' s'} (h : parsePrec plainOps f (k + 1) nodes s = .ok ((loc, nodes'), s')) :
    parsePrec plainOps (f + 1) k nodes s = parseLoop plainOps f k loc nodes' s' := by
  have h0 : k ≠ 0 := by omega
  simp [parsePrec, h0, h2, h]

theorem pp_num {f : Nat} {nodes : List Node} {v : Nat} {loc : Loc} {r : List LTok}
    {core : CoreSt} {cur : Loc} :
    parsePrec plainOps (f + 1) 11 nodes ⟨⟨.num v, loc⟩ :: r, core, cur⟩ =
      .ok ((loc, nodes ++ [.val (i32OfNat v)]), ⟨r, core, loc⟩) := by
  simp [parsePrec]

theorem pp_label {f : Nat} {nodes : List Node} {n : String} {loc : Loc} {r : List LTok}
    {core : CoreSt} {cur : Loc} :
    parsePrec plainOps (f + 1) 11 nodes ⟨⟨.label .global n, loc⟩ :: r, core, cur⟩ =
      .ok ((loc, nodes ++ [labelNode core n]), ⟨r, core.touch n loc, loc⟩) := by
  simp [parsePrec, qualify]

theorem pp_sizeOf {f : Nat} {nodes : List Node} {n : String} {loc lloc : Loc} {r : List LTok}
    {core : CoreSt} {cur : Loc} :
    parsePrec plainOps (f + 1) 11 nodes
        ⟨⟨.dir "SizeOf", loc⟩ :: ⟨.label .global n, lloc⟩ :: r, core, cur⟩ =
      .ok ((lloc, nodes ++ [.sizeOf n]), ⟨r, core.touch n lloc, lloc⟩) := by
  simp [parsePrec, qualify]

theorem pp_un {f : Nat} {nodes : List Node} {name : String} {node : Option Node} {loc : Loc}
    {r : List LTok} {core : CoreSt} {cur : Loc}
    (hop : lookupOp unaryOps name = some node) {l' nodes' s'}
    (h : parsePrec plainOps f 11 nodes ⟨r, core, loc⟩ = .ok ((l', nodes'), s')) :
    parsePrec plainOps (f + 1) 11 nodes ⟨⟨.sym name, loc⟩ :: r, core, cur⟩ =
      .ok ((loc, nodes' ++ node.toList), s') := by
  simp [parsePrec, hop, h]
  cases node <;> simp

theorem pp_paren {f : Nat} {nodes : List Node} {loc : Loc}
    {r : List LTok} {core : CoreSt} {cur : Loc} {l' nodes' cl r' core' cur'}
    (h : parsePrec plainOps f 0 nodes ⟨r, core, loc⟩ =
      .ok ((l', nodes'), ⟨⟨.sym "ParenClose", cl⟩ :: r', core', cur'⟩)) :
    parsePrec plainOps (f + 1) 11 nodes ⟨⟨.sym "ParenOpen", loc⟩ :: r, core, cur⟩ =
      .ok ((loc, nodes'), ⟨r', core', cl⟩) := by
  have hop : lookupOp unaryOps "ParenOpen" = none := by decide
  simp [parsePrec, hop, h, peekedSymbol]

def headSym : List LTok → Option String
  | ⟨.sym s, _⟩ :: _ => some s
  | _ => none

theorem pp_zero_stop {f : Nat} {nodes : List Node} {s : PlainSt} {loc nodes' rest core' cur'}
    (h : parsePrec plainOps f 1 nodes s = .ok ((loc, nodes'), ⟨rest, core', cur'⟩))
    (hq : headSym rest ≠ some "Question") :
    ∃ cur'', parsePrec plainOps (f + 1) 0 nodes s = .ok ((loc, nodes'), ⟨rest, core', cur''⟩) := by
  cases rest with
  | nil => exact ⟨cur', by simp [parsePrec, h]⟩
  | cons t r =>
    obtain ⟨tok, tl⟩ := t
    refine ⟨tl, ?_⟩
    cases tok with
    | sym n =>
      simp [parsePrec, h]
      have hn : n ≠ "Question" := by intro hn; subst hn; simp [headSym] at hq
      split  -- the `match` on `plainOps.peek`, which has returned `.sym n`
      next heq => simp at heq  -- peek error
      next heq => simp at heq; exact absurd heq.1.1 hn  -- `Question`
      next heq => simp at heq; simp [← heq.2]  -- any other
    | _ => simp [parsePrec, h]

theorem pp_zero_tern {f : Nat} {nodes : List Node} {s : PlainSt}
    {loc n1 ql r1 c1 cur1 l2 n2 cl r2 c2 cur2 l3 n3 s3}
    (h1 : parsePrec plainOps f 1 nodes s =
      .ok ((loc, n1), ⟨⟨.sym "Question", ql⟩ :: r1, c1, cur1⟩))
    (h2 : parsePrec plainOps f 1 n1 ⟨r1, c1, ql⟩ =
      .ok ((l2, n2), ⟨⟨.sym "Colon", cl⟩ :: r2, c2, cur2⟩))
    (h3 : parsePrec plainOps f 1 n2 ⟨r2, c2, cl⟩ = .ok ((l3, n3), s3)) :
    parsePrec plainOps (f + 1) 0 nodes s = .ok ((loc, n3 ++ [.ternary]), s3) := by
  simp [parsePrec, h1, h2, h3, peekedSymbol]

theorem pl_stop (f k : Nat) (loc : Loc) (nodes : List Node) (rest : List LTok) (core : CoreSt)
    (cur : Loc) (hs : ∀ s, headSym rest = some s → lookupOp (levelOps k) s = none) :
    ∃ cur', parseLoop plainOps (f + 1) k loc nodes ⟨rest, core, cur⟩ =
      .ok ((loc, nodes), ⟨rest, core, cur'⟩) := by
  cases rest with
  | nil => exact ⟨cur, by simp [parseLoop]⟩
  | cons t r =>
    obtain ⟨tok, tl⟩ := t
    refine ⟨tl, ?_⟩
    cases tok with
    | sym n =>
      simp [parseLoop]
      simp [hs n (by simp [headSym])]
    | _ => simp [parseLoop]

theorem pl_op {f k : Nat} {loc : Loc} {nodes : List Node} {name : String} {node : Node}
    {l : Loc} {r : List LTok} {core : CoreSt} {cur : Loc}
    (hop : lookupOp (levelOps k) name = some node) {l' nodes' s'}
    (h : parsePrec plainOps f (k + 1) nodes ⟨r, core, l⟩ = .ok ((l', nodes'), s')) :
    parseLoop plainOps (f + 1) k loc nodes ⟨⟨.sym name, l⟩ :: r, core, cur⟩ =
      parseLoop plainOps f k loc (nodes' ++ [node]) s' := by
  simp [parseLoop, hop, h]

end Az65.ParseLemmas
