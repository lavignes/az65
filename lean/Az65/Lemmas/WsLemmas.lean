import Az65.Lemmas.LexLemmas
/-
Lemmas for C18 (white-space insensitivity): two runs of the lexer in lock step.

`Sim a b`   — the two lexer states agree on everything the state machine reads
              (`ending`, `stash`, `state`, `buf`, `eof`); `input`, `loc`, `tokLoc` are free.
`OutRel R`  — two outcomes have the same shape, the same `Tok` / the same error kind, and their
              successor states are related by `R`.
`Ext q a b` — `Sim a b`, and `b` has `q` appended to its unread input.
-/
namespace Az65

structure Sim (a b : Lexer) : Prop where
  ending : a.ending = b.ending
  stash : a.stash = b.stash
  state : a.state = b.state
  buf : a.buf = b.buf
  eof : a.eof = b.eof

theorem Sim.refl (a : Lexer) : Sim a a := ⟨rfl, rfl, rfl, rfl, rfl⟩

theorem Sim.symm {a b : Lexer} (h : Sim a b) : Sim b a :=
  ⟨h.ending.symm, h.stash.symm, h.state.symm, h.buf.symm, h.eof.symm⟩

theorem Sim.trans {a b c : Lexer} (h : Sim a b) (h' : Sim b c) : Sim a c :=
  ⟨h.ending.trans h'.ending, h.stash.trans h'.stash, h.state.trans h'.state, h.buf.trans h'.buf,
    h.eof.trans h'.eof⟩

def OutRel (R : Lexer → Lexer → Prop) : LexOut → LexOut → Prop
  | .tok t l, .tok t' l' => t.tok = t'.tok ∧ R l l'
  | .err e l, .err e' l' => e.kind = e'.kind ∧ R l l'
  | .done l, .done l' => R l l'
  | .more l, .more l' => R l l'
  | _, _ => False

theorem OutRel.lx {R : Lexer → Lexer → Prop} {o o' : LexOut} (h : OutRel R o o') : R o.lx o'.lx := by
  cases o <;> cases o' <;> first | exact h.2 | exact h | exact h.elim

theorem OutRel.mono {R R' : Lexer → Lexer → Prop} {o o' : LexOut} (h : OutRel R o o')
    (hr : R o.lx o'.lx → R' o.lx o'.lx) : OutRel R' o o' := by
  cases o <;> cases o' <;>
    first | exact ⟨h.1, hr h.2⟩ | exact hr h | exact h.elim

theorem OutRel.more_inv {R : Lexer → Lexer → Prop} {o' : LexOut} {l : Lexer}
    (h : OutRel R (.more l) o') : ∃ l', o' = .more l' ∧ R l l' := by
  cases o' <;> first | exact ⟨_, rfl, h⟩ | exact h.elim

theorem OutRel.tok_inv {R : Lexer → Lexer → Prop} {o' : LexOut} {t : LTok} {l : Lexer}
    (h : OutRel R (.tok t l) o') : ∃ t' l', o' = .tok t' l' ∧ t.tok = t'.tok ∧ R l l' := by
  cases o' <;> first | exact ⟨_, _, rfl, h.1, h.2⟩ | exact h.elim

theorem OutRel.err_inv {R : Lexer → Lexer → Prop} {o' : LexOut} {e : LexErr} {l : Lexer}
    (h : OutRel R (.err e l) o') : ∃ e' l', o' = .err e' l' ∧ e.kind = e'.kind ∧ R l l' := by
  cases o' <;> first | exact ⟨_, _, rfl, h.1, h.2⟩ | exact h.elim

theorem OutRel.done_inv {R : Lexer → Lexer → Prop} {o' : LexOut} {l : Lexer}
    (h : OutRel R (.done l) o') : ∃ l', o' = .done l' ∧ R l l' := by
  cases o' <;> first | exact ⟨_, rfl, h⟩ | exact h.elim

theorem OutRel.comp {R R' : Lexer → Lexer → Prop} {o o₁ o₂ : LexOut} (h₁ : OutRel R o o₁)
    (h₂ : OutRel R' o o₂) : OutRel (fun a b => R o.lx a ∧ R' o.lx b) o₁ o₂ := by
  cases o with
  | tok t l =>
    obtain ⟨t₁, l₁, rfl, e₁, r₁⟩ := h₁.tok_inv
    obtain ⟨t₂, l₂, rfl, e₂, r₂⟩ := h₂.tok_inv
    exact ⟨e₁.symm.trans e₂, r₁, r₂⟩
  | err e l =>
    obtain ⟨x₁, l₁, rfl, e₁, r₁⟩ := h₁.err_inv
    obtain ⟨x₂, l₂, rfl, e₂, r₂⟩ := h₂.err_inv
    exact ⟨e₁.symm.trans e₂, r₁, r₂⟩
  | done l =>
    obtain ⟨l₁, rfl, r₁⟩ := h₁.done_inv
    obtain ⟨l₂, rfl, r₂⟩ := h₂.done_inv
    exact ⟨r₁, r₂⟩
  | more l =>
    obtain ⟨l₁, rfl, r₁⟩ := h₁.more_inv
    obtain ⟨l₂, rfl, r₂⟩ := h₂.more_inv
    exact ⟨r₁, r₂⟩

/-- Locations and the unread input never steer one iteration: `lexChar_step`, read for `Sim`. -/
theorem lexChar_sim (T : LexTables) {a b : Lexer} (c : Char) (h : Sim a b) :
    OutRel Sim (lexChar T a c) (lexChar T b c) := by
  obtain ⟨F, hF, ha, hb⟩ := lexChar_step T c h.state h.buf
  rw [ha, hb]
  cases hF with
  | go | start => exact ⟨h.ending, h.stash, rfl, rfl, h.eof⟩
  | newline | err => exact ⟨rfl, h⟩
  | tok t b' f => exact ⟨rfl, h.ending, congrArg f h.stash, rfl, rfl, h.eof⟩
  | errEnd k f => exact ⟨rfl, h.ending, congrArg f h.stash, rfl, h.buf, h.eof⟩

def Ext (q : List Char) (a b : Lexer) : Prop := Sim a b ∧ b.input = a.input ++ q

theorem lexChar_ext (T : LexTables) {q : List Char} {a b : Lexer} (c : Char) (h : Ext q a b) :
    OutRel (Ext q) (lexChar T a c) (lexChar T b c) := by
  refine (lexChar_sim T c h.1).mono fun hs => ⟨hs, ?_⟩
  rw [(lexChar_frame T a c).1, (lexChar_frame T b c).1]; exact h.2

/-- `hne`: a lexer with nothing stashed and nothing unread fetches the pretended final `'\n'`, the
one with `q` appended the first character of `q`. -/
theorem Fetch.ext {q : List Char} {a b l : Lexer} {c : Char} (hf : Fetch a l c) (h : Ext q a b)
    (hne : q = [] ∨ ¬(a.stash = none ∧ a.input = [])) : ∃ l', Fetch b l' c ∧ Ext q l l' := by
  obtain ⟨hs, hi⟩ := h
  cases hf with
  | stash hc =>
    exact ⟨_, .stash (hs.stash ▸ hc), ⟨hs.ending, rfl, hs.state, hs.buf, hs.eof⟩, hi⟩
  | input hc hin =>
    exact ⟨_, .input (hs.stash ▸ hc) (by rw [hi, hin]; rfl), ⟨hs.ending, hs.stash, hs.state, hs.buf,
      hs.eof⟩, rfl⟩
  | flush hc hin he hf =>
    obtain rfl : q = [] := hne.resolve_right (· ⟨hc, hin⟩)
    exact ⟨_, .flush (hs.stash ▸ hc) (by rw [hi, hin]; rfl) (hs.ending ▸ he) (hs.eof ▸ hf),
      ⟨hs.ending, hs.stash, hs.state, hs.buf, rfl⟩, hi⟩

theorem lexStep_ext (T : LexTables) {q : List Char} {a b : Lexer} (h : Ext q a b)
    (hne : q = [] ∨ ¬(a.stash = none ∧ a.input = [])) :
    OutRel (Ext q) (lexStep T a) (lexStep T b) := by
  rcases lexStep_cases T a with ⟨l, c, hf, e⟩ | ⟨hs, hi, he, hf, e⟩ | ⟨io, hs, hi, he, e⟩
  · obtain ⟨l', hf', hl⟩ := hf.ext h hne
    rw [e, hf'.lexStep]; exact lexChar_ext T c hl
  all_goals
    obtain rfl : q = [] := hne.resolve_right (· ⟨hs, hi⟩)
    have hib : b.input = [] := by rw [h.2, hi]; rfl
    have hsb : b.stash = none := h.1.stash ▸ hs
  · rw [e, lexStep_done hsb hib (h.1.ending ▸ he) (h.1.eof ▸ hf)]; exact h
  · rw [e, lexStep_read hsb hib (h.1.ending ▸ he)]; exact ⟨rfl, h⟩

theorem lexStep_eof_mono (T : LexTables) {lx : Lexer} (h : lx.eof = true) :
    (lexStep T lx).lx.eof = true := by
  rcases lexStep_cases T lx with ⟨l, c, hf, e⟩ | ⟨_, _, _, _, e⟩ | ⟨io, _, _, _, e⟩
  · rw [e, (lexChar_frame T l c).2.2.2]; cases hf <;> first | exact h | rfl
  · rw [e]; exact h
  · rw [e]; exact h

theorem lexStep_at_end (T : LexTables) {lx : Lexer} (hs : lx.stash = none) (hi : lx.input = []) :
    (∃ e l, lexStep T lx = .err e l) ∨ (lexStep T lx).lx.eof = true := by
  rcases lexStep_cases T lx with ⟨l, c, hf, e⟩ | ⟨_, _, _, hf, e⟩ | ⟨io, _, _, _, e⟩
  · rw [e, (lexChar_frame T l c).2.2.2]
    cases hf with
    | stash h => rw [hs] at h; cases h
    | input _ h => rw [hi] at h; cases h
    | flush => exact .inr rfl
  · rw [e]; exact .inr hf
  · exact .inl ⟨_, _, e⟩

end Az65
