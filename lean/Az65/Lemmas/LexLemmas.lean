import Az65.Model.Lexer
/-
The lexer state machine, characterised once.

`lexChar_step` — what one iteration (`lexChar`) does is one of six kinds of step (`CharStep`), and
which one is decided by the table, the state, the buffer and the character alone: locations, the
stash and the unread input are only copied.  C13, C14 and C18 argue by cases on `CharStep`; it does
not say what the buffer becomes, and the one fact about that, `C18Ws.blank_initial_lexChar`, unfolds
`lexChar` itself.
`lexStep_cases` — the character fetch (`lexStep`): a character from the stash, from the input or the
pretended final `\n` (`Fetch`), or the end of the stream.
`Lexer.next_inv`, `lexAll_inv` — an invariant of `lexStep` is an invariant of `next` and `lexAll`.
-/
namespace Az65

def LexOut.lx : LexOut → Lexer
  | .tok _ l => l
  | .err _ l => l
  | .done l => l
  | .more l => l

def LexOut.TokP (P : LTok → Prop) : LexOut → Prop
  | .tok t _ => P t
  | _ => True

def LexOut.ErrP (P : LexErr → Prop) : LexOut → Prop
  | .err e _ => P e
  | _ => True

theorem LexOut.TokP_of_eq {P : LTok → Prop} {o : LexOut} {t lx'} (h : o.TokP P) (e : o = .tok t lx') : P t := by
  subst e; exact h

theorem LexOut.ErrP_of_eq {P : LexErr → Prop} {o : LexOut} {x lx'} (h : o.ErrP P) (e : o = .err x lx') : P x := by
  subst e; exact h

theorem LexOut.TokP_true (o : LexOut) : o.TokP fun _ => True := by cases o <;> trivial

theorem LexOut.ErrP_true (o : LexOut) : o.ErrP fun _ => True := by cases o <;> trivial

/-- Which character can have opened the token that is being built in state `s`. -/
def startsToken (T : LexTables) : LState → Char → Bool
  | .initial, _ => false
  | .inComment, c => c == ';'
  | .inString, c => c == '"'
  | .inStringEscape, c => c == '"'
  | .inHexStringEscape1, c => c == '"'
  | .inHexStringEscape2, c => c == '"'
  | .inChar, c => c == '\''
  | .inCharEscape, c => c == '\''
  | .inHexCharEscape1, c => c == '\''
  | .inHexCharEscape2, c => c == '\''
  | .inNumber2, c => c == '%'
  | .inNumber10, c => '0' ≤ c && c ≤ '9'
  | .inNumber16, c => c == '$'
  | .inSymbol, c => T.symbolStarts.contains c.toNat
  | .inShiftSymbol, c => T.symbolStarts.contains c.toNat
  | .inDirective, c => c == '@'
  | .inIdentifier, c => isIdentChar c

/-- Which character can be the first character of a token of each kind.  `Thm.C14.token_loc` is
stated with it; it is declared here because the `tok` constructor of `CharStep` mentions it. -/
def Thm.C14.tokStart (T : LexTables) : Tok → Char → Bool
  | .comment, c => c == ';'
  | .newline, c => c == '\n'
  | .str _, c => c == '"'
  | .num _, c => c == '\'' || c == '%' || ('0' ≤ c && c ≤ '9') || c == '$'
  | .sym _, c => c == '%' || T.symbolStarts.contains c.toNat
  | .dir _, c => c == '@'
  | .op _, c => isIdentChar c
  | .reg _, c => isIdentChar c
  | .flag _, c => isIdentChar c
  | .label _ _, c => isIdentChar c

/-- `labelOf` without the location: the two lexers of `lexChar_step` differ in `tokLoc`, and one
`cases` on this decides both their `labelOf`s. -/
def labelKind? (buf : List Char) : Option LabelKind :=
  match (buf.filter (· == '.')).length with
  | 0 => some .global
  | 1 => if buf.head? == some '.' then some .loc else some .direct
  | _ => none

theorem labelOf_eq (buf : List Char) (loc : Loc) :
    labelOf buf loc = match labelKind? buf with
      | some k => .ok ⟨.label k (String.ofList buf), loc⟩
      | none => .error ⟨.label, loc⟩ := by
  unfold labelOf labelKind?
  rcases (buf.filter (· == '.')).length with _ | _ | n
  · rfl
  · by_cases h : buf.head? == some '.' <;> simp [h]
  · rfl

/-- The errors each state can report, and whether they name the current character (`loc`, `true`)
or the token's first character (`tokLoc`, `false`). -/
def errsOf : LState → List (LexErrKind × Bool)
  | .initial => [(.input, true)]
  | .inComment => []
  | .inString => [(.lineBreak, true)]
  | .inStringEscape => [(.escape, true)]
  | .inHexStringEscape1 => [(.lineBreak, true), (.escape, true)]
  | .inHexStringEscape2 => [(.lineBreak, true), (.escape, false)]
  | .inChar => [(.lineBreak, true), (.charLit, false)]
  | .inCharEscape => [(.escape, true)]
  | .inHexCharEscape1 => [(.lineBreak, true), (.escape, true)]
  | .inHexCharEscape2 => [(.lineBreak, true), (.escape, false)]
  | .inNumber2 => [(.bin, false)]
  | .inNumber10 => [(.dec, false)]
  | .inNumber16 => [(.hex, false)]
  | .inSymbol => [(.input, false)]
  | .inShiftSymbol => [(.crash "lexer.rs InShiftSymbol unwrap", false)]
  | .inDirective => [(.directive, false)]
  | .inIdentifier => [(.label, false)]

/-- A new stash holds the old stashed character or the current one. -/
def StashUpd (c : Char) (f : Option Char → Option Char) : Prop :=
  ∀ x y, f x = some y → x = some y ∨ y = c

theorem StashUpd.keep (c : Char) : StashUpd c id := fun _ _ h => .inl h
theorem StashUpd.set (c : Char) : StashUpd c fun _ => some c :=
  fun _ _ h => .inr (Option.some.inj h).symm
theorem StashUpd.clear (c : Char) : StashUpd c fun _ => none := fun _ _ h => nomatch h

open Thm.C14 in
/-- The six kinds of step of one iteration in state `s` with buffer `buf` on character `c`, each
as the function from the lexer it is run on to the outcome.

The side conditions, by client.  `hsh`: `C13.ShiftOk` (kept by `go` and `start`; an
`err` in `InShiftSymbol` means that the lookup of `buf` failed, which `ShiftOk` rules out; `errEnd`
does not come from there).  `hst`: `C14.Pending` (the character at `tokLoc` remains a legal opener
along `go` and is `c` at `start`) and `C14.TokAt` (at `tok` it is a `tokStart` of the token).
`hs`, `hs'` — whether a token is being built before and after the step: C14 for what `tokLoc` is
(`tokLoc_is_start`, `GAt.hpending`), `C18Ws.nu` counts one for such a token.  `hf`: the `hstash`
clause of `C14.GAt`.  `hk`: C13 (`crash` is reported by `InShiftSymbol` alone),
`C14.error_loc` and `C14.GAt_lexChar`.
`ht` and the `hs` of `newline` have no client. -/
inductive CharStep (T : LexTables) (s : LState) (buf : List Char) (c : Char) :
    (Lexer → LexOut) → Prop
  /-- `continue`, between tokens (a blank) or inside one -/
  | go (s' : LState) (b' : List Char) (hs : s' = .initial ↔ s = .initial)
      (hst : ∀ c0, startsToken T s c0 = true → startsToken T s' c0 = true)
      (hsh : s' = .inShiftSymbol → (lookupName T.symbols (String.ofList b')).isSome = true) :
      CharStep T s buf c fun lx => .more { lx with state := s', buf := b' }
  /-- `continue`, `c` opens a token -/
  | start (s' : LState) (b' : List Char) (hs : s = .initial) (hs' : s' ≠ .initial)
      (hsh : s' ≠ .inShiftSymbol) (hst : startsToken T s' c = true) :
      CharStep T s buf c fun lx => .more { lx with state := s', buf := b', tokLoc := lx.loc }
  | newline (hs : s = .initial) (hc : c = '\n') :
      CharStep T s buf c fun lx => .tok ⟨.newline, lx.loc⟩ lx
  /-- the token being built is returned -/
  | tok (t : Tok) (b' : List Char) (f : Option Char → Option Char) (hs : s ≠ .initial)
      (ht : t ≠ .newline) (hst : ∀ c0, startsToken T s c0 = true → tokStart T t c0 = true)
      (hf : StashUpd c f) :
      CharStep T s buf c fun lx =>
        .tok ⟨t, lx.tokLoc⟩ { lx with state := .initial, buf := b', stash := f lx.stash }
  /-- an error, the machine stays as it is -/
  | err (k : LexErrKind) (cur : Bool) (hk : (k, cur) ∈ errsOf s)
      (hsh : s = .inShiftSymbol → lookupName T.symbols (String.ofList buf) = none) :
      CharStep T s buf c fun lx => .err ⟨k, bif cur then lx.loc else lx.tokLoc⟩ lx
  /-- an error that ends the token being built -/
  | errEnd (k : LexErrKind) (f : Option Char → Option Char) (hs : s ≠ .initial)
      (hsh : s ≠ .inShiftSymbol) (hk : (k, false) ∈ errsOf s) (hf : StashUpd c f) :
      CharStep T s buf c fun lx =>
        .err ⟨k, lx.tokLoc⟩ { lx with state := .initial, stash := f lx.stash }

/-- `split` at a goal `P (if p then _ else _) (if p then _ else _)` with the same `p` on both sides,
as a term (`lexChar_step` says why). -/
theorem ite₂ {α : Type} {P : α → α → Prop} {p : Prop} [Decidable p] {t e t' e' : α}
    (ht : p → P t t') (he : ¬p → P e e') : P (if p then t else e) (if p then t' else e') := by
  split
  · exact ht ‹_›
  · exact he ‹_›

open Thm.C14 in
/-- **One iteration, characterised.**  Two lexers in the same state with the same buffer take the
same kind of step on the same character (so: locations, stash and unread input never steer an
iteration), and that step is one of `CharStep`. -/
theorem lexChar_step (T : LexTables) (c : Char) {a b : Lexer} (hs : a.state = b.state)
    (hb : a.buf = b.buf) :
    ∃ F, CharStep T a.state a.buf c F ∧ lexChar T a c = F a ∧ lexChar T b c = F b := by
  -- the walk through `lexChar` is done on a goal `P (lexChar T a c) (lexChar T b c)`, `P` a variable:
  -- `split` under the `∃` is several times dearer
  suffices h : ∀ P : LexOut → LexOut → Prop,
      (∀ F, CharStep T a.state a.buf c F → ∀ o o', o = F a → o' = F b → P o o') →
      P (lexChar T a c) (lexChar T b c) from
    h (fun o o' => ∃ F, CharStep T a.state a.buf c F ∧ o = F a ∧ o' = F b)
      fun F hF _ _ e e' => ⟨F, hF, e, e'⟩
  intro P h
  obtain ⟨i1, en1, l1, tl1, st1, s, bf, eo1⟩ := a
  obtain ⟨i2, en2, l2, tl2, st2, s2, bf2, eo2⟩ := b
  dsimp only at hs hb h; subst hs hb
  unfold lexChar; dsimp only
  cases s
  case initial =>
    -- (`split` on the eleven nested `if`s of this state runs `simp` out of steps)
    dsimp only
    refine ite₂ (fun h1 => ?_) fun _ => ite₂ (fun _ => ?_) fun _ => ite₂ (fun _ => ?_) fun _ =>
      ite₂ (fun _ => ?_) fun _ => ite₂ (fun _ => ?_) fun _ => ite₂ (fun _ => ?_) fun _ =>
      ite₂ (fun _ => ?_) fun _ => ite₂ (fun _ => ?_) fun _ => ite₂ (fun _ => ?_) fun _ =>
      ite₂ (fun _ => ?_) fun _ => ite₂ (fun _ => ?_) fun _ => ?_
    · exact h _ (.newline rfl (by simpa using h1)) _ _ rfl rfl
    · exact h _ (.go _ _ .rfl (fun _ h => h) nofun) _ _ rfl rfl
    all_goals first
      | (refine h _ (.start _ _ rfl ?_ ?_ ?_) _ _ rfl rfl
         · nofun
         · nofun
         · assumption)
      | (refine h _ (.err _ true ?_ nofun) _ _ rfl rfl; simp [errsOf])
  all_goals (dsimp only
             try (rw [labelOf_eq, labelOf_eq]; cases labelKind? bf <;> dsimp only))
  -- (`ite₂` at an `if`, `split` at a `match`: `split` alone is several times dearer here)
  all_goals (repeat' first | refine ite₂ (fun _ => ?_) fun _ => ?_ | split)
  /- Every leaf is one of the kinds of step; the side conditions are closed after the shape is fixed.
  The arms of `lexChar` outside `initial`, by alternative:
  * `go`: every `.more`.  `hsh` is vacuous (`cases h`) except in the one arm that enters
    `inShiftSymbol` (`inSymbol`, `buf ++ [c]` names a shift), where it is the equation
    `lookupName … = some name` that `split` left in the context.
  * `tok`, by what happens to `c`.  `.set c`, it goes back to the stash: the `\n` that ends a
    comment, the terminator of a number, the character after a directive or an identifier, and in
    `inSymbol` / `inShiftSymbol` when only `buf` is a symbol.  `.keep c` (`f := id`), it is consumed:
    the closing `"` / `'`, and when `buf ++ [c]` is a symbol.  `.clear c`: the `'` taken into a
    register name (`af'`), where `lx'` has stashed it and the arm empties the stash again.
  * `err`, the lexer is returned as it is.  `true`, at `loc`: `lineBreak` (the six states that report
    it), `escape` for an unknown escape letter and for a first `\$` digit that is not one.  `false`,
    at `tokLoc`: `escape` for the second `\$` digit, a character that neither continues nor
    terminates a number, and the `crash` of `inShiftSymbol`, whose `hsh` is the
    `lookupName … buf = none` that `split` left (`assumption`).
  * `errEnd`, the state goes back to `initial`.  `.keep c`: `charLit` at the closing `'`.  `.set c`,
    after the last character of a token that is none: a number that does not parse, `input` in
    `inSymbol` (neither `buf ++ [c]` nor `buf` is a symbol), an unknown `directive`, a `label` with
    two dots or more. -/
  all_goals first
    | (show P (.more _) _
       refine h _ (.go _ _ ?_ ?_ ?_) _ _ rfl rfl
       · constructor <;> nofun
       · exact fun _ h => h
       · intro h; first | (cases h; done) | simp only [‹lookupName _ _ = some _›, Option.isSome_some])
    | (show P (.tok _ _) _
       first
        | refine h _ (.tok _ _ _ ?_ ?_ ?_ (.set c)) _ _ rfl rfl
        | refine h _ (.tok _ _ id ?_ ?_ ?_ (.keep c)) _ _ rfl rfl
        | refine h _ (.tok _ _ _ ?_ ?_ ?_ (.clear c)) _ _ rfl rfl
       · nofun
       · nofun
       · intro c0 h0
         first
          | exact h0
          | (simp only [startsToken] at h0; simp only [tokStart, h0, Bool.or_true, Bool.true_or]))
    | (first
        | refine h _ (.err _ true ?_ ?_) _ _ rfl rfl
        | refine h _ (.err _ false ?_ ?_) _ _ rfl rfl
       · simp [errsOf]
       · intro h; first | (cases h; done) | assumption)
    | (first
        | refine h _ (.errEnd _ _ ?_ ?_ ?_ (.set c)) _ _ rfl rfl
        | refine h _ (.errEnd _ id ?_ ?_ ?_ (.keep c)) _ _ rfl rfl
       · nofun
       · nofun
       · simp [errsOf])

theorem lexChar_step₁ (T : LexTables) (lx : Lexer) (c : Char) :
    ∃ F, CharStep T lx.state lx.buf c F ∧ lexChar T lx c = F lx :=
  let ⟨F, hF, h, _⟩ := lexChar_step T c (a := lx) (b := lx) rfl rfl
  ⟨F, hF, h⟩

theorem lexChar_frame (T : LexTables) (lx : Lexer) (c : Char) :
    (lexChar T lx c).lx.input = lx.input ∧ (lexChar T lx c).lx.loc = lx.loc ∧
    (lexChar T lx c).lx.ending = lx.ending ∧ (lexChar T lx c).lx.eof = lx.eof := by
  obtain ⟨F, hF, h⟩ := lexChar_step₁ T lx c
  rw [h]; cases hF <;> exact ⟨rfl, rfl, rfl, rfl⟩

theorem lexChar_ne_done (T : LexTables) (lx : Lexer) (c : Char) (lx' : Lexer) :
    lexChar T lx c ≠ .done lx' := by
  obtain ⟨F, hF, h⟩ := lexChar_step₁ T lx c
  rw [h]; cases hF <;> nofun

theorem lexChar_more_stash {T : LexTables} {lx lx' : Lexer} {c : Char}
    (h : lexChar T lx c = .more lx') : lx'.stash = lx.stash := by
  obtain ⟨F, hF, e⟩ := lexChar_step₁ T lx c
  rw [e] at h; cases hF <;> cases h <;> rfl

def stepLoc (l : Loc) (c : Char) : Loc :=
  if c == '\n' then { l with line := l.line + 1, col := 0 } else { l with col := l.col + 1 }

theorem lexStep_done {T : LexTables} {lx : Lexer}
    (hs : lx.stash = none) (hi : lx.input = []) (he : lx.ending = .eof) (hf : lx.eof = true) :
    lexStep T lx = .done lx := by
  simp [lexStep, hs, hi, he, hf]

theorem lexStep_read {T : LexTables} {lx : Lexer} {io : Bool}
    (hs : lx.stash = none) (hi : lx.input = []) (he : lx.ending = bif io then .io else .utf8) :
    lexStep T lx = .err ⟨.read io, lx.loc⟩ lx := by
  cases io <;> simp only [lexStep, hs, hi, he, cond]

inductive Fetch (lx : Lexer) : Lexer → Char → Prop
  | stash {c : Char} (hs : lx.stash = some c) : Fetch lx { lx with stash := none } c
  | input {c : Char} {rest : List Char} (hs : lx.stash = none) (hi : lx.input = c :: rest) :
      Fetch lx { lx with input := rest, loc := stepLoc lx.loc c } c
  | flush (hs : lx.stash = none) (hi : lx.input = []) (he : lx.ending = .eof) (hf : lx.eof = false) :
      Fetch lx { lx with eof := true, loc := { lx.loc with line := lx.loc.line + 1, col := 0 } } '\n'

theorem Fetch.lexStep {T : LexTables} {lx l : Lexer} {c : Char} (h : Fetch lx l c) :
    lexStep T lx = lexChar T l c := by
  cases h <;> simp [Az65.lexStep, stepLoc, *]

theorem lexStep_cases (T : LexTables) (lx : Lexer) :
    (∃ l c, Fetch lx l c ∧ lexStep T lx = lexChar T l c) ∨
    (lx.stash = none ∧ lx.input = [] ∧ lx.ending = .eof ∧ lx.eof = true ∧ lexStep T lx = .done lx) ∨
    (∃ io, lx.stash = none ∧ lx.input = [] ∧ (lx.ending = bif io then .io else .utf8) ∧
      lexStep T lx = .err ⟨.read io, lx.loc⟩ lx) := by
  cases hs : lx.stash with
  | some c => exact .inl ⟨_, c, .stash hs, (Fetch.stash hs).lexStep⟩
  | none =>
    cases hi : lx.input with
    | cons c rest => exact .inl ⟨_, c, .input hs hi, (Fetch.input hs hi).lexStep⟩
    | nil =>
      cases he : lx.ending with
      | utf8 => exact .inr (.inr ⟨false, rfl, rfl, rfl, lexStep_read hs hi he⟩)
      | io => exact .inr (.inr ⟨true, rfl, rfl, rfl, lexStep_read hs hi he⟩)
      | eof =>
        cases hf : lx.eof with
        | true => exact .inr (.inl ⟨rfl, rfl, rfl, rfl, lexStep_done hs hi he hf⟩)
        | false => exact .inl ⟨_, _, .flush hs hi he hf, (Fetch.flush hs hi he hf).lexStep⟩

theorem Fetch.frame {lx l : Lexer} {c : Char} (h : Fetch lx l c) :
    l.stash = none ∧ l.state = lx.state ∧ l.buf = lx.buf ∧ l.tokLoc = lx.tokLoc ∧
    l.ending = lx.ending := by
  cases h <;> exact ⟨by first | rfl | assumption, rfl, rfl, rfl, rfl⟩

/-- Out of fuel is `done`, which is also the end of the stream; `C13.lexer_progress` shows that the
fuel `lexAll` gives (`Lexer.fuel`) never runs out. -/
theorem Lexer.next_zero (T : LexTables) (lx : Lexer) : Lexer.next T 0 lx = .done lx := rfl

theorem Lexer.next_more {T : LexTables} {lx lx' : Lexer} (f : Nat) (h : lexStep T lx = .more lx') :
    Lexer.next T (f + 1) lx = Lexer.next T f lx' := by
  simp only [Lexer.next, h]

theorem Lexer.next_stop {T : LexTables} {lx : Lexer} (f : Nat) (h : ∀ lx', lexStep T lx ≠ .more lx') :
    Lexer.next T (f + 1) lx = lexStep T lx := by
  unfold Lexer.next
  split
  · rename_i lx' h'; exact absurd h' (h lx')
  · rfl

theorem Lexer.next_inv {T : LexTables} {J : Lexer → Prop} {P : LTok → Prop} {E : LexErr → Prop}
    (h : ∀ lx, J lx → J (lexStep T lx).lx ∧ (lexStep T lx).TokP P ∧ (lexStep T lx).ErrP E)
    (f : Nat) : ∀ lx, J lx →
      J (Lexer.next T f lx).lx ∧ (Lexer.next T f lx).TokP P ∧ (Lexer.next T f lx).ErrP E := by
  induction f with
  | zero => exact fun lx hJ => ⟨hJ, trivial, trivial⟩
  | succ f ih =>
    intro lx hJ
    have hs := h lx hJ
    cases e : lexStep T lx with
    | more lx' => rw [Lexer.next_more f e]; rw [e] at hs; exact ih lx' hs.1
    | tok | err | done => rw [Lexer.next_stop f (by rw [e]; exact fun _ h => nomatch h)]; exact hs

theorem lexAll_inv {T : LexTables} {J : Lexer → Prop} {P : LTok → Prop} {E : LexErr → Prop}
    (h : ∀ lx, J lx → J (lexStep T lx).lx ∧ (lexStep T lx).TokP P ∧ (lexStep T lx).ErrP E)
    (f : Nat) : ∀ lx, J lx →
      (∀ t ∈ (lexAll T f lx).1, P t) ∧ ∀ e, (lexAll T f lx).2 = some e → E e := by
  induction f with
  | zero => exact fun _ _ => ⟨(fun _ h => nomatch h), fun _ h => nomatch h⟩
  | succ f ih =>
    intro lx hJ
    obtain ⟨h1, h2, h3⟩ := Lexer.next_inv h lx.fuel lx hJ
    cases e : Lexer.next T lx.fuel lx with
    | tok t lx' =>
      rw [e] at h1 h2
      simp only [lexAll, e]
      exact ⟨fun t' ht' => (List.mem_cons.mp ht').elim (· ▸ h2) ((ih lx' h1).1 t'), (ih lx' h1).2⟩
    | err x lx' =>
      rw [e] at h3
      simp only [lexAll, e]
      exact ⟨(fun _ h => nomatch h), fun _ he => Option.some.inj he ▸ h3⟩
    | done | more => simp only [lexAll, e]; exact ⟨(fun _ h => nomatch h), fun _ h => nomatch h⟩

end Az65
