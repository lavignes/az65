import Az65.Spec.CExpr
/-
Bridge lemmas for C04: each `BitVec 32` operation used by the evaluator model equals the C
operation of `Spec.CExpr` on the `toInt` view.
-/
namespace Az65.Bridge
open Az65 Az65.Spec

theorem u32_toInt (x : I32) : u32 x.toInt = x.toNat := by
  unfold u32; rw [BitVec.toInt_eq_toNat_cond]; have := x.isLt; split <;> omega

theorem wrap_toNat (x : I32) : wrap (x.toNat : Int) = x.toInt :=
  (BitVec.toInt_eq_toNat_bmod x).symm

def InR (a : Int) : Prop := -2147483648 ≤ a ∧ a < 2147483648

theorem inR_toInt (x : I32) : InR x.toInt := ⟨BitVec.le_toInt x, BitVec.toInt_lt⟩

theorem toInt_ofInt_of_inR {a : Int} (h : InR a) : (BitVec.ofInt 32 a).toInt = a := by
  rw [BitVec.toInt_ofInt]; exact Int.bmod_eq_of_le h.1 h.2

theorem shAmt_eq (r : I32) : shAmt r = shCount r.toInt := by
  simp [shAmt, shCount, u32_toInt]

theorem toInt_shl (x : I32) (k : Nat) : (x <<< k).toInt = wrap (x.toInt * 2 ^ k) := by
  rw [BitVec.toInt_shiftLeft, Nat.shiftLeft_eq, BitVec.toInt_eq_toNat_bmod x, wrap,
    Int.bmod_mul_bmod]
  push_cast
  rfl

theorem toInt_sshr (x : I32) (k : Nat) : (x.sshiftRight k).toInt = x.toInt / 2 ^ k := by
  rw [BitVec.toInt_sshiftRight, Int.shiftRight_eq_div_pow]; push_cast; rfl

theorem toInt_ushr (x : I32) (k : Nat) :
    (x >>> k).toInt = wrap ((u32 x.toInt / 2 ^ k : Nat) : Int) := by
  rw [u32_toInt, ← Nat.shiftRight_eq_div_pow, ← BitVec.toNat_ushiftRight, wrap_toNat]

theorem toInt_byte (y : I32) : (y &&& 0xFF).toInt = ((y.toNat % 256 : Nat) : Int) := by
  have h : (y &&& 0xFF).toNat = y.toNat % 256 := by
    rw [BitVec.toNat_and]; exact Nat.and_two_pow_sub_one_eq_mod _ 8
  rw [BitVec.toInt_eq_toNat_of_lt (by omega), h]

theorem toInt_lo (x : I32) : (x &&& 0xFF).toInt = x.toInt % 256 := by
  rw [toInt_byte, BitVec.toInt_eq_toNat_cond]
  have := x.isLt; split <;> omega

theorem toInt_hi (x : I32) : ((x >>> 8) &&& 0xFF).toInt = (x.toInt / 256) % 256 := by
  rw [toInt_byte, BitVec.toNat_ushiftRight, Nat.shiftRight_eq_div_pow, BitVec.toInt_eq_toNat_cond]
  have := x.isLt; split <;> omega

theorem beq_eq (x y : I32) : (x == y) = decide (x.toInt = y.toInt) := by
  rw [Bool.eq_iff_iff]; simp [BitVec.toInt_inj]

theorem bne_eq (x y : I32) : (x != y) = decide (x.toInt ≠ y.toInt) := by
  rw [Bool.eq_iff_iff]; simp [BitVec.toInt_inj]

theorem toInt_not (x : I32) : (~~~x).toInt = - x.toInt - 1 := by
  rw [BitVec.toInt_not, BitVec.toInt_eq_toNat_cond, Int.bmod_def]; have := x.isLt; split <;> omega

theorem toInt_and (x y : I32) :
    (x &&& y).toInt = wrap ((u32 x.toInt &&& u32 y.toInt : Nat) : Int) := by
  rw [u32_toInt, u32_toInt, ← BitVec.toNat_and, wrap_toNat]
theorem toInt_or (x y : I32) :
    (x ||| y).toInt = wrap ((u32 x.toInt ||| u32 y.toInt : Nat) : Int) := by
  rw [u32_toInt, u32_toInt, ← BitVec.toNat_or, wrap_toNat]
theorem toInt_xor (x y : I32) :
    (x ^^^ y).toInt = wrap ((u32 x.toInt ^^^ u32 y.toInt : Nat) : Int) := by
  rw [u32_toInt, u32_toInt, ← BitVec.toNat_xor, wrap_toNat]

theorem eq_zero_iff (x : I32) : x = 0#32 ↔ x.toInt = 0 := by
  rw [← BitVec.toInt_inj]; simp

theorem b2i_toInt (b : Bool) : (b2i b).toInt = ofBool b := by
  cases b <;> simp [b2i, ofBool] <;> decide

/-- Unary operators: model on `BitVec 32` = C on `Int`.  The `match` is there for unary plus, which
has no node (`UnOp.node .pos = none`, the parser emits nothing for it): its model side is the
operand itself. -/
theorem un_bridge (o : UnOp) (x : I32) :
    (match o.node with
      | some n => (un1 n).map (fun f => (f x).toInt)
      | none => some x.toInt) = some (unSem o x.toInt) := by
  cases o <;> simp only [UnOp.node, un1, unSem, Option.map]
  case neg => simp [wrap, BitVec.toInt_neg]
  case lnot => rw [b2i_toInt, beq_eq]; simp
  case bnot => rw [toInt_not]
  case lo => rw [toInt_lo]
  case hi => rw [toInt_hi]

/-- Binary operators: model on `BitVec 32` = C on `Int`, including which operands are
"could not be solved". -/
theorem bin_bridge (o : BinOp) (x y : I32) :
    (bin2 o.node).map (fun f => (f x y).map BitVec.toInt) = some (binSem o x.toInt y.toInt) := by
  cases o <;> simp only [BinOp.node, bin2, binSem, Option.map]
  case lor | land => rw [b2i_toInt]; simp [ofBool, eq_zero_iff]
  case bor => rw [toInt_or]
  case bxor => rw [toInt_xor]
  case band => rw [toInt_and]
  case eq => rw [b2i_toInt, beq_eq]
  case ne => rw [b2i_toInt, bne_eq]
  case lt | gt => rw [b2i_toInt, BitVec.slt_eq_decide]
  case le | ge => rw [b2i_toInt, BitVec.sle_eq_decide]
  case shl | shll => rw [toInt_shl, shAmt_eq]
  case shr => rw [toInt_sshr, shAmt_eq]
  case shrl => rw [toInt_ushr, shAmt_eq]
  case add | sub | mul => simp [wrap]
  case div =>
    by_cases h : y = 0
    · simp [h]
    · have h' : y.toInt ≠ 0 := fun e => h ((eq_zero_iff y).2 e)
      simp only [h, h', if_false]; rw [BitVec.toInt_sdiv]; rfl
  case rem =>
    by_cases h : y = 0
    · simp [h]
    · have h' : y.toInt ≠ 0 := fun e => h ((eq_zero_iff y).2 e)
      simp only [h, h', if_false]; rw [BitVec.toInt_srem]

end Az65.Bridge
