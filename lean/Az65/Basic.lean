/-
Shared vocabulary of the az65 model.  Imports nothing, so that the driver links as a `lean_exe`.
-/
namespace Az65

/-- 32-bit value domain of az65 expressions (`i32` in the Rust). -/
abbrev I32 := BitVec 32

/-- Outcome of a computation that the Rust can (a) finish with a value, (b) decline
(`Option::None`, "could not be solved"), or (c) panic.  Every `unwrap`, index, `/`, unchecked
`-` of the Rust is an explicit `crash site`, never a default value. -/
inductive Res (α : Type) where
  | ok (a : α)
  | unsolved
  | crash (site : String)
  deriving Repr, DecidableEq

namespace Res
def bind {α β} : Res α → (α → Res β) → Res β
  | .ok a, f => f a
  | .unsolved, _ => .unsolved
  | .crash s, _ => .crash s
def isCrash {α} : Res α → Bool
  | .crash _ => true
  | _ => false
end Res

/-! ### small text helpers used by the line-protocol driver -/

def hexDigit (n : Nat) : Char :=
  if n < 10 then Char.ofNat (48 + n) else Char.ofNat (87 + n)

def hexByte (b : Nat) : String :=
  String.ofList [hexDigit ((b / 16) % 16), hexDigit (b % 16)]

def hexBytes (bs : List Nat) : String :=
  String.join (bs.map hexByte)

def hexVal (c : Char) : Option Nat :=
  if '0' ≤ c ∧ c ≤ '9' then some (c.toNat - 48)
  else if 'a' ≤ c ∧ c ≤ 'f' then some (c.toNat - 87)
  else if 'A' ≤ c ∧ c ≤ 'F' then some (c.toNat - 55)
  else none

def unhexAux : List Char → List Nat → Option (List Nat)
  | [], acc => some acc.reverse
  | [_], _ => none
  | a :: b :: r, acc =>
    match hexVal a, hexVal b with
    | some x, some y => unhexAux r ((16 * x + y) :: acc)
    | _, _ => none

/-- Decode a hex string ("0a ff" without spaces) to bytes. -/
def unhex (s : String) : Option (List Nat) := unhexAux s.toList []

/-- UTF-8 encode one scalar value. -/
def utf8EncodeChar (c : Nat) : List Nat :=
  if c < 0x80 then [c]
  else if c < 0x800 then [0xC0 + c / 64, 0x80 + c % 64]
  else if c < 0x10000 then [0xE0 + c / 4096, 0x80 + (c / 64) % 64, 0x80 + c % 64]
  else [0xF0 + c / 262144, 0x80 + (c / 4096) % 64, 0x80 + (c / 64) % 64, 0x80 + c % 64]

end Az65
