import Az65.Lemmas.AbsFrame
/-
C07 — nothing is ever placed above address $FFFF.

"The current address never exceeds $10000: any statement that would place a byte at an address
above $FFFF - whether an instruction, @db, @dw, @ds, @align padding or @incbin data, and whether
its value is known immediately or only at link time - is rejected with a diagnostic, and a
statement that ends exactly at $10000 is accepted.  Consequently every label value lies in
0..=$10000."

The invariant `here ≤ TOP` is a clause of `AbsFrame.exec_step`, carried along `run`
(`run_here_le`).  Label values follow because a label stores `here` and only a `@redef*`/`@undef` of
its name can disturb the entry afterwards (`run_all_labels_le`).  Rejection above the top and
acceptance at it are stated per effect function, on the immediate and on the deferred path alike;
the effect functions are shared by the token-level and the statement-level model.
-/
namespace Az65.Thm.C07
open Az65 Az65.Abs Az65.AbsFrame Az65.LinkLemmas

theorem eff_undef_here_le {c : CoreSt} {d : String} (h0 : c.here ≤ TOP) :
    (Eff.undef c d).here ≤ TOP := h0

theorem eff_structField_here_le {c c' : CoreSt} {d : String} {size fs sz' : I32} {txt : String}
    {loc : Loc} (h0 : c.here ≤ TOP) (h : Eff.structField c d size fs txt loc = .ok (c', sz')) :
    c'.here ≤ TOP := by
  obtain ⟨_, hc⟩ := Eff.structField_eq_ok.1 h
  cases hc; exact h0

theorem resolve_here_frame (c : CoreSt) (e : List Node) : (resolve c e).1.here = c.here :=
  resolve_here c e

theorem piece_here_frame {c c' : CoreSt} {p : Piece} (h : piece c p = .ok c') : c'.here = c.here :=
  let ⟨_, a⟩ := piece_adv h
  a.here

theorem pieces_here_frame {c c' : CoreSt} {ps : List Piece} (h : pieces c ps = .ok c') :
    c'.here = c.here :=
  let ⟨_, _, a⟩ := pieces_adv h
  a.here

/-- **C07 (one statement).** A statement of whatever kind that is accepted from a state whose
address is at most $10000 leaves the address at most $10000. -/
theorem exec_here_le {s s' : State} {st : Stmt} (h0 : s.core.here ≤ TOP)
    (h : exec s st = .ok s') : s'.core.here ≤ TOP :=
  let ⟨_, hs⟩ := exec_step h
  hs.le h0

/-- **C07 (programs).** Along any accepted statement list the address stays at most $10000. -/
theorem run_here_le {s s' : State} {prog : List Stmt} (h0 : s.core.here ≤ TOP)
    (h : run s prog = .ok s') : s'.core.here ≤ TOP :=
  run_inv (P := fun s => s.core.here ≤ TOP) (fun _ _ _ _ => exec_here_le) h0 h

theorem run_from_init_here_le {s' : State} {prog : List Stmt} (h : run {} prog = .ok s') :
    s'.core.here ≤ TOP :=
  run_here_le (by decide) h

/-- **C07 (every point of a program).** After any prefix of a program accepted from the initial
state the address is at most $10000. -/
theorem run_prefix_here_le {s'' : State} {p q : List Stmt} (h : run {} (p ++ q) = .ok s'') :
    ∃ s', run {} p = .ok s' ∧ run s' q = .ok s'' ∧ s'.core.here ≤ TOP := by
  obtain ⟨s', hp, hq⟩ := run_append h
  exact ⟨s', hp, hq, run_from_init_here_le hp⟩

/-- **C07 (labels, one step).** A label defined while the address is at most $10000 is stored as
the plain value `here`, which lies in 0..=$10000 (and is not wrapped by the 32-bit representation). -/
theorem label_value_le_top {c c' : CoreSt} {d : String} {loc : Loc} (h0 : c.here ≤ TOP)
    (h : Eff.label c d loc = .ok c') :
    c'.symtab.get d = some ⟨.val (i32OfNat c.here), c.curMeta⟩ ∧ c.here ≤ 65536 ∧
      (i32OfNat c.here).toNat = c.here := by
  obtain ⟨_, rfl⟩ := Eff.label_eq_ok.1 h
  refine ⟨CoreSt.insertWithMeta_get_self .., h0, ?_⟩
  simp only [i32OfNat, BitVec.toNat_ofNat]
  simp only [TOP] at h0
  omega

def LabelVal (c : CoreSt) (d : String) : Prop :=
  ∃ e v, c.symtab.get d = some e ∧ e.sym = .val v ∧ v.toNat ≤ 65536

def overwrites (d : String) : Stmt → Bool
  | .redefine _ d' _ => d' == d
  | .undef d' => d' == d
  | _ => false

theorem exec_label_labelVal {s s' : State} {d : String} (h0 : s.core.here ≤ TOP)
    (h : exec s (.label d) = .ok s') : LabelVal s'.core d := by
  obtain ⟨c', hc, rfl⟩ := exec_ok h
  obtain ⟨hg, hle, hn⟩ := label_value_le_top h0 hc
  exact ⟨_, _, hg, rfl, by rw [hn]; exact hle⟩

/-- A statement other than a `@redef*`/`@undef` of `d` keeps the entry of `d`: every other
insertion is guarded by an "already defined" test. -/
theorem exec_preserves_entry {s s' : State} {st : Stmt} {d : String} {x : Entry}
    (h : exec s st = .ok s') (hno : overwrites d st = false)
    (hx : s.core.symtab.get d = some x) : s'.core.symtab.get d = some x := by
  obtain ⟨_, hs⟩ := exec_step h
  refine hs.entry ?_ ?_ hx
  · rintro k e rfl; simp [overwrites] at hno
  · rintro rfl; simp [overwrites] at hno

theorem run_preserves_entry {s s' : State} {prog : List Stmt} {d : String} {x : Entry}
    (h : run s prog = .ok s') (hno : ∀ st ∈ prog, overwrites d st = false)
    (hx : s.core.symtab.get d = some x) : s'.core.symtab.get d = some x :=
  run_inv (P := fun s => s.core.symtab.get d = some x)
    (fun st hm _ _ hx he => exec_preserves_entry he (hno st hm) hx) hx h

/-- **C07 (labels, whole programs).** In an accepted program every label `d` that no statement of
the program replaces (`@redefl`/`@redefn`) or deletes (`@undef`) ends up holding a plain value in
0..=$10000. -/
theorem run_all_labels_le {s s' : State} {prog : List Stmt} (h0 : s.core.here ≤ TOP)
    (h : run s prog = .ok s') (d : String) (hd : Stmt.label d ∈ prog)
    (hno : ∀ st ∈ prog, overwrites d st = false) : LabelVal s'.core d := by
  induction prog generalizing s with
  | nil => cases hd
  | cons st r ih =>
    obtain ⟨s1, hs, hr⟩ := run_cons h
    have hno' : ∀ st' ∈ r, overwrites d st' = false := fun st' hm => hno st' (List.mem_cons_of_mem _ hm)
    rcases List.mem_cons.mp hd with rfl | hd'
    · obtain ⟨e, v, hg, hv, hle⟩ := exec_label_labelVal h0 hs
      exact ⟨e, v, run_preserves_entry hr hno' hg, hv, hle⟩
    · exact ih (exec_here_le h0 hs) hr hd' hno'

/-! **C07 (rejected above the top).** `past_top_rejected_*`: per effect function, on the immediate path
(`_now`) and on the deferred one, a statement that would end above $10000 fails with `addrOverflow`.
Where an effect tests the operand's range first, the operand is taken in range (`hv`, `hal`, `hp`), so
that the address test is the one reached. -/

theorem past_top_rejected_dbStr {c : CoreSt} {bytes : List Nat} {loc : Loc}
    (h : c.here + bytes.length > TOP) : Eff.dbStr c bytes loc = .error ⟨.addrOverflow, loc⟩ :=
  if_pos h

theorem past_top_rejected_dbVal_now {c : CoreSt} {v : I32} {ns : List Node} {loc : Loc}
    (hv : u32 v ≤ 255) (h : c.here + 1 > TOP) :
    Eff.dbVal c (some v) ns loc = .error ⟨.addrOverflow, loc⟩ :=
  (if_neg (by omega)).trans (if_pos h)

theorem past_top_rejected_dbVal_deferred {c : CoreSt} {ns : List Node} {loc : Loc}
    (h : c.here + 1 > TOP) : Eff.dbVal c none ns loc = .error ⟨.addrOverflow, loc⟩ :=
  if_pos h

theorem past_top_rejected_dwVal_now {c : CoreSt} {v : I32} {ns : List Node} {loc : Loc}
    (hv : u32 v ≤ 65535) (h : c.here + 2 > TOP) :
    Eff.dwVal c (some v) ns loc = .error ⟨.addrOverflow, loc⟩ :=
  (if_neg (by omega)).trans (if_pos h)

theorem past_top_rejected_dwVal_deferred {c : CoreSt} {ns : List Node} {loc : Loc}
    (h : c.here + 2 > TOP) : Eff.dwVal c none ns loc = .error ⟨.addrOverflow, loc⟩ :=
  if_pos h

theorem past_top_rejected_skip {c : CoreSt} {n : Nat} {loc : Loc} (h : c.here + n > TOP) :
    Eff.skip c n loc = .error ⟨.addrOverflow, loc⟩ :=
  if_pos h

theorem past_top_rejected_dsSize {c : CoreSt} {sz : I32} {loc : Loc}
    (hv : u32 sz ≤ 65535) (h : c.here + u32 sz > TOP) :
    Eff.dsSize c (some sz) loc = .error ⟨.addrOverflow, loc⟩ :=
  (if_neg (by omega)).trans (if_pos h)

theorem past_top_rejected_align {c : CoreSt} {code : Bool} {al : I32} {loc : Loc}
    (hal : ¬ al.toInt < 2) (hp : (u32 al - c.here % u32 al) % u32 al ≤ 65535)
    (h : c.here + (u32 al - c.here % u32 al) % u32 al > TOP) :
    Eff.align c code (some al) loc = .error ⟨.addrOverflow, loc⟩ :=
  (if_neg hal).trans ((if_neg (by omega)).trans (if_pos h))

theorem past_top_rejected_incbin {c : CoreSt} {loc : Loc} {bytes : List Nat} (h0 : c.here ≤ TOP)
    (h : c.here + bytes.length > TOP) :
    Eff.incbin c loc bytes = .error ⟨.addrOverflow, loc⟩ :=
  (Eff.incbin_eq ..).trans (if_pos ⟨fun hb => by subst hb; exact Nat.not_lt.2 h0 h, h⟩)

theorem past_top_rejected_instrTail {c : CoreSt} {oldLen : Nat} {loc : Loc}
    (h : c.here + (c.dataLen - oldLen) > TOP) :
    Eff.instrTail c oldLen loc = .error ⟨.addrOverflow, loc⟩ :=
  if_pos h

theorem past_top_rejected_instr {s : State} {ps : List Piece} {c1 : CoreSt} (hc : s.code = true)
    (hp : pieces s.core ps = .ok c1)
    (h : s.core.here + (c1.dataLen - s.core.dataLen) > TOP) :
    exec s (.instr ps) = .error ⟨.addrOverflow, {}⟩ := by
  have hh := pieces_here_frame hp
  simp only [exec, hc, hp, if_true]
  rw [past_top_rejected_instrTail (by rw [hh]; exact h)]
  rfl

/-! **C07 (accepted at the top).** `ends_at_top_accepted_*`: per effect function, a statement that ends
exactly at $10000 is accepted and leaves the address there. -/

theorem ends_at_top_accepted_dbStr {c : CoreSt} {bytes : List Nat} {loc : Loc}
    (h : c.here + bytes.length = TOP) :
    ∃ c', Eff.dbStr c bytes loc = .ok c' ∧ c'.here = TOP :=
  ⟨_, if_neg (by omega), h⟩

theorem ends_at_top_accepted_dbVal_now {c : CoreSt} {v : I32} {ns : List Node} {loc : Loc}
    (hv : u32 v ≤ 255) (h : c.here + 1 = TOP) :
    ∃ c', Eff.dbVal c (some v) ns loc = .ok c' ∧ c'.here = TOP :=
  ⟨_, (if_neg (by omega)).trans (if_neg (by omega)), h⟩

theorem ends_at_top_accepted_dbVal_deferred {c : CoreSt} {ns : List Node} {loc : Loc}
    (h : c.here + 1 = TOP) :
    ∃ c', Eff.dbVal c none ns loc = .ok c' ∧ c'.here = TOP :=
  ⟨_, if_neg (by omega), h⟩

theorem ends_at_top_accepted_dwVal_now {c : CoreSt} {v : I32} {ns : List Node} {loc : Loc}
    (hv : u32 v ≤ 65535) (h : c.here + 2 = TOP) :
    ∃ c', Eff.dwVal c (some v) ns loc = .ok c' ∧ c'.here = TOP :=
  ⟨_, (if_neg (by omega)).trans (if_neg (by omega)), h⟩

theorem ends_at_top_accepted_dwVal_deferred {c : CoreSt} {ns : List Node} {loc : Loc}
    (h : c.here + 2 = TOP) :
    ∃ c', Eff.dwVal c none ns loc = .ok c' ∧ c'.here = TOP :=
  ⟨_, if_neg (by omega), h⟩

theorem ends_at_top_accepted_skip {c : CoreSt} {n : Nat} {loc : Loc} (h : c.here + n = TOP) :
    ∃ c', Eff.skip c n loc = .ok c' ∧ c'.here = TOP :=
  ⟨_, if_neg (by omega), h⟩

theorem ends_at_top_accepted_dsSize {c : CoreSt} {sz : I32} {loc : Loc}
    (hv : u32 sz ≤ 65535) (h : c.here + u32 sz = TOP) :
    ∃ c', Eff.dsSize c (some sz) loc = .ok (c', u32 sz) ∧ c'.here = TOP :=
  ⟨_, (if_neg (by omega)).trans (if_neg (by omega)), h⟩

/-- The fill of `@ds` never fails for address reasons (and a solved fill only for its range). -/
theorem ends_at_top_accepted_dsFill {c : CoreSt} {n : Nat} {fill : Option (Option I32)}
    {ns : List Node} {loc : Loc} (hf : ∀ v, fill = some (some v) → u32 v ≤ 255) :
    ∃ c', Eff.dsFill c n fill ns loc = .ok c' ∧ c'.here = c.here := by
  cases fill with
  | none => exact ⟨_, rfl, rfl⟩
  | some o =>
    cases o with
    | none => exact ⟨_, rfl, rfl⟩
    | some v => exact ⟨_, if_neg (Nat.not_lt.mpr (hf v rfl)), rfl⟩

theorem ends_at_top_accepted_align {c : CoreSt} {code : Bool} {al : I32} {loc : Loc}
    (hal : ¬ al.toInt < 2) (hp : (u32 al - c.here % u32 al) % u32 al ≤ 65535)
    (h : c.here + (u32 al - c.here % u32 al) % u32 al = TOP) :
    ∃ c', Eff.align c code (some al) loc = .ok c' ∧ c'.here = TOP := by
  cases code
  · exact ⟨_, (if_neg hal).trans ((if_neg (by omega)).trans ((if_neg (by omega)).trans
      (if_neg Bool.false_ne_true))), h⟩
  · exact ⟨_, (if_neg hal).trans ((if_neg (by omega)).trans ((if_neg (by omega)).trans (if_pos rfl))), h⟩

theorem ends_at_top_accepted_incbin {c : CoreSt} {loc : Loc} {bytes : List Nat}
    (h : c.here + bytes.length = TOP) :
    ∃ c', Eff.incbin c loc bytes = .ok c' ∧ c'.here = TOP :=
  ⟨_, (Eff.incbin_eq ..).trans (if_neg fun hn => Nat.lt_irrefl _ (h ▸ hn.2)), h⟩

theorem ends_at_top_accepted_instrTail {c : CoreSt} {oldLen : Nat} {loc : Loc}
    (h : c.here + (c.dataLen - oldLen) = TOP) :
    ∃ c', Eff.instrTail c oldLen loc = .ok c' ∧ c'.here = TOP :=
  ⟨_, if_neg (by omega), h⟩

theorem ends_at_top_accepted_instr {s : State} {ps : List Piece} {c1 : CoreSt} (hc : s.code = true)
    (hp : pieces s.core ps = .ok c1)
    (h : s.core.here + (c1.dataLen - s.core.dataLen) = TOP) :
    ∃ s', exec s (.instr ps) = .ok s' ∧ s'.core.here = TOP := by
  have hh := pieces_here_frame hp
  obtain ⟨c', hc', hh'⟩ := ends_at_top_accepted_instrTail (c := c1) (oldLen := s.core.dataLen)
    (loc := {}) (by rw [hh]; exact h)
  refine ⟨{ s with core := c' }, ?_, hh'⟩
  simp only [exec, hc, hp, if_true, hc']
  rfl

def atFFFF : CoreSt := { here := 65535 }

example : ∃ c', Eff.dbVal atFFFF (some 7#32) [] {} = .ok c' ∧ c'.here = TOP :=
  ends_at_top_accepted_dbVal_now (by decide) rfl
example : ∃ c', Eff.dbVal atFFFF none [.label "later"] {} = .ok c' ∧ c'.here = TOP :=
  ends_at_top_accepted_dbVal_deferred rfl
example : Eff.dwVal atFFFF (some 7#32) [] {} = .error ⟨.addrOverflow, {}⟩ :=
  past_top_rejected_dwVal_now (by decide) (by decide)
example : Eff.dwVal atFFFF none [.label "later"] {} = .error ⟨.addrOverflow, {}⟩ :=
  past_top_rejected_dwVal_deferred (by decide)
example : ∃ c', Eff.dwVal { here := 65534 } (some 0x1234#32) [] {} = .ok c' ∧ c'.here = TOP :=
  ends_at_top_accepted_dwVal_now (by decide) rfl
example : Eff.dbVal { here := 65536 } (some 7#32) [] {} = .error ⟨.addrOverflow, {}⟩ :=
  past_top_rejected_dbVal_now (by decide) (by decide)
example : Eff.dbStr atFFFF [65, 66] {} = .error ⟨.addrOverflow, {}⟩ :=
  past_top_rejected_dbStr (by decide)
example : ∃ c', Eff.dbStr { here := 65534 } [65, 66] {} = .ok c' ∧ c'.here = TOP :=
  ends_at_top_accepted_dbStr rfl
example : ∃ c', Eff.dsSize { here := 65520 } (some 16#32) {} = .ok (c', u32 16#32) ∧ c'.here = TOP :=
  ends_at_top_accepted_dsSize (by decide) (by decide)
example : Eff.dsSize { here := 65520 } (some 17#32) {} = .error ⟨.addrOverflow, {}⟩ :=
  past_top_rejected_dsSize (by decide) (by decide)
example : ∃ c', Eff.align { here := 65533 } true (some 4#32) {} = .ok c' ∧ c'.here = TOP :=
  ends_at_top_accepted_align (by decide) (by decide) (by decide)
example : Eff.align { here := 65536 } false (some 3#32) {} = .error ⟨.addrOverflow, {}⟩ :=
  past_top_rejected_align (by decide) (by decide) (by decide)
example : Eff.incbin atFFFF {} [1, 2] = .error ⟨.addrOverflow, {}⟩ :=
  past_top_rejected_incbin (by decide) (by decide)
example : ∃ c', Eff.incbin atFFFF {} [1] = .ok c' ∧ c'.here = TOP :=
  ends_at_top_accepted_incbin rfl
example : ∃ s', exec { core := { here := 65534 } } (.instr [.lit 0xA9, .lit 1]) = .ok s' ∧
    s'.core.here = TOP :=
  ends_at_top_accepted_instr (c1 := (({ here := 65534 } : CoreSt).push 0xA9).push 1) rfl rfl rfl
example : exec { core := atFFFF } (.instr [.lit 0xA9, .lit 1]) = .error ⟨.addrOverflow, {}⟩ :=
  past_top_rejected_instr (c1 := ((atFFFF).push 0xA9).push 1) rfl rfl (by decide)
example : ∃ c', Eff.label { here := 65536 } "end" {} = .ok c' ∧
    c'.symtab.get "end" = some ⟨.val (i32OfNat 65536), []⟩ := by
  refine ⟨_, rfl, ?_⟩
  exact (label_value_le_top (c := { here := 65536 }) (d := "end") (loc := {}) (by decide) rfl).1

end Az65.Thm.C07
