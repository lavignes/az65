import Az65.Thm.IsaSm83
import Az65.Thm.C02Forms.P0
import Az65.Thm.C02Forms.P1
import Az65.Thm.C02Forms.P2
import Az65.Thm.C02Forms.P3
import Az65.Thm.C02Forms.P4
import Az65.Thm.C02Forms.P5
import Az65.Thm.C02Forms.P6
import Az65.Thm.C02Forms.P7
/-
C02 — SM83 (Game Boy) instructions assemble to their LR35902 encoding, only to it.

ISA-level theorems (all operand values) are in `Az65/Thm/IsaSm83.lean`.  This file ties the
decision tree regenerated from src/sm83/mod.rs on every run to the Spec.  The eight `cp r` /
`cp (hl)` forms are a recorded known finding (the assembler emits C8..CF, which the repository's own
test `sm83::tests::cp` asserts); the table theorem is therefore `_partial`: it excludes exactly them.
-/
namespace Az65.Thm.C02
open Az65 Az65.Spec

theorem slices_cover : Sm83.allOpcodes =
    slice 0 ++ slice 1 ++ slice 2 ++ slice 3 ++ slice 4 ++ slice 5 ++ slice 6 ++ slice 7 := by
  simp only [slice, Nat.reduceMul, List.drop_zero, ← List.take_add, Nat.reduceAdd]
  exact (List.take_of_length_le (by rw [Sm83.allOpcodes_count]; decide)).symm

theorem formsAgreeOn_append (a b : List Sm83.Instr) :
    formsAgreeOn (a ++ b) = (formsAgreeOn a && formsAgreeOn b) := by
  simp [formsAgreeOn, List.all_append]

/-- **C02 (generated tree = Spec on every opcode), partial.**  For each of the 500 defined
opcodes except the eight recorded `cp r` / `cp (hl)` forms, written in its canonical spelling, with
each value operand also replaced by every edge value, known now and defined later: the decision
tree regenerated from the current source yields exactly `Spec.Sm83.expected`. -/
theorem tree_agrees_spec_on_opcodes_partial : formsAgreeOn Sm83.allOpcodes = true := by
  rw [slices_cover]
  simp only [formsAgreeOn_append, forms_slice_0, forms_slice_1, forms_slice_2, forms_slice_3,
    forms_slice_4, forms_slice_5, forms_slice_6, forms_slice_7, Bool.and_self]

/-- The recorded exclusion is exactly eight source forms. -/
theorem known_defect_forms :
    (Sm83.allOpcodes.filter fun i => knownDefect (Sm83.write i).1 (Sm83.write i).2).length = 8 := by
  decide +kernel

export Az65.Thm.IsaSm83 (decode_enc read_write enc_bytes cp_is_B8 C8_is_ret_z expected_decode
  allOpcodes_nodup allOpcodes_cover)

example : asmOpnds .sm83 0 "ldh" [.reg "a", .mem 0xFF10] true = some [0xF0, 0x10] := by decide +kernel
example : asmOpnds .sm83 0 "ldh" [.reg "a", .mem 0xFF10] false = some [0xF0, 0x10] := by decide +kernel
example : asmOpnds .sm83 0 "ldh" [.reg "a", .mem 0x100] false = none := by decide +kernel
example : asmOpnds .sm83 0 "halt" [] true = some [0x76, 0x00] := by decide +kernel

end Az65.Thm.C02
