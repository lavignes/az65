import Az65.Model.Asm
import Az65.Lemmas.ParseLemmas
/-
C10 — invoking a macro is equivalent to substituting its arguments into its body.

* `replay_eq_subst`: the index-triple replay loop (`macroNext`, the mirror of the Rust
  `TokenSource::next` for macros), drained until it reports the end, yields exactly the body
  with every slot replaced by the tokens of the corresponding argument (`flatSubst`).
  Key step `macroNext_spec`: one call of `macroNext` pops exactly the head of the remaining
  output `flat`.
* `record_slots_*`: which body tokens become slots when a macro is recorded (`slotOf`).
* `oneArg_single`, `oneArg_braces`: the shape of one argument (a single token, or the tokens
  inside one pair of braces, balanced inner braces kept, line breaks / comments dropped).

Each is about one replay state or one argument on its own.  That the pump, with such states and
lexers on its source stack, delivers the one stream of the substituted program (invocations inside
bodies and arguments, macros defined by macros) is not a theorem here; it is compared on programs.
-/
namespace Az65.Thm.C10
open Az65

/-- What the fall-through alternative of a `match` on `⟨k, _⟩` knows about `t`. -/
theorem forall_ne_mk {t : LTok} {k : Tok} : (∀ loc, ¬ t = ⟨k, loc⟩) ↔ t.tok ≠ k :=
  ⟨fun h e => h t.loc (by rw [← e]), fun h loc e => h (by rw [e])⟩

/-- What one recorded body token stands for at replay time.  An argument is a list of *tokens*
(`List LTok`), the result is a list of tokens: a spliced argument is never looked at again by
`slotOf`, i.e. arguments are expanded once and never re-scanned for parameter names — this holds
by typing (`MTok` slots exist only in a recorded body, never in an argument). -/
def substTok (args : List (List LTok)) (ent : String) : MTok → List LTok
  | .tok t => [t]
  | .arg i => args.getD i []
  | .entropy loc => [⟨.str ent, loc⟩]

def flatSubst (body : List MTok) (args : List (List LTok)) (ent : String) : List LTok :=
  body.flatMap (substTok args ent)

/-- The tokens an index-form replay state has still to deliver. -/
def flat (m : Macro) (st : MacroState) : List LTok :=
  match st.expandingArg with
  | some a => (st.args.getD a []).drop st.argOff ++
      flatSubst (m.toks.drop (st.macroOff + 1)) st.args st.entropy
  | none => flatSubst (m.toks.drop st.macroOff) st.args st.entropy

/-- Invariant of the replay loop: an argument is being spliced only at a valid body index. -/
def WF (m : Macro) (st : MacroState) : Prop :=
  st.expandingArg.isSome → st.macroOff < m.toks.length

/-- The fuel `macroNext` needs: each of its two recursive calls (slot entered, argument exhausted)
lowers `mu` by one, and `mu` is positive on `WF` states.  It stays below the
`2 * m.toks.length + 2` that `sourceNext` gives. -/
def mu (m : Macro) (st : MacroState) : Nat :=
  2 * (m.toks.length - st.macroOff) + (if st.expandingArg.isSome then 0 else 1)

/-- One call of `macroNext` pops the head of the remaining output.  The two recursive calls
(argument exhausted, slot entered) go to a state with the same `flat`. -/
theorem macroNext_spec (m : Macro) (f : Nat) (st : MacroState) : WF m st → mu m st ≤ f →
    match macroNext m f st with
    | (some t, st') => flat m st = t :: flat m st' ∧ WF m st' ∧
        st'.args = st.args ∧ st'.entropy = st.entropy
    | (none, _) => flat m st = [] := by
  fun_induction macroNext m f st with
  | case1 st =>  -- out of fuel: excluded, `mu` is positive
    intro hwf hmu
    simp only [mu] at hmu
    split at hmu
    · have := hwf ‹_›; omega
    · omega
  | case2 f st hoff =>  -- past the end of the body: `none`
    intro hwf hmu
    cases hea : st.expandingArg with
    | some a => have := hwf (by simp [hea]); omega
    | none => simp [flat, hea, flatSubst, List.drop_eq_nil_of_le hoff]
  | case3 f st hoff a hea argToks ha ih =>  -- argument exhausted: on to the next body token
    intro hwf hmu
    have ha : (st.args.getD a []).length ≤ st.argOff := ha
    have e : flat m st = flat m { st with expandingArg := none, macroOff := st.macroOff + 1 } := by
      simp only [flat, hea, List.drop_eq_nil_of_le ha, List.nil_append]
    rw [e]
    exact ih (by simp [WF]) (by simp [mu, hea] at hmu ⊢; omega)
  | case4 f st hoff a hea argToks ha =>  -- the next token of the argument being spliced
    intro hwf hmu
    have ha : st.argOff < (st.args.getD a []).length := Nat.lt_of_not_ge ha
    simp only [flat, hea, WF, List.drop_eq_getElem_cons ha, List.getElem_eq_getD default]
    exact ⟨rfl, fun _ => Nat.lt_of_not_ge hoff, trivial, trivial⟩
  | case5 f st hoff hea t hm =>  -- a plain body token
    intro hwf hmu
    have hlt : st.macroOff < m.toks.length := by omega
    rw [← List.getElem_eq_getD (h := hlt)] at hm
    simp [flat, hea, flatSubst, List.drop_eq_getElem_cons hlt, hm, substTok, WF]
  | case6 f st hoff hea i hm ih =>  -- a slot: start splicing argument `i`
    intro hwf hmu
    have hlt : st.macroOff < m.toks.length := by omega
    rw [← List.getElem_eq_getD (h := hlt)] at hm
    have e : flat m st = flat m { st with expandingArg := some i, argOff := 0 } := by
      simp [flat, hea, flatSubst, List.drop_eq_getElem_cons hlt, hm, substTok]
    rw [e]
    exact ih (fun _ => hlt) (by simp [mu, hea] at hmu ⊢; omega)
  | case7 f st hoff hea l hm =>  -- `@entropy`
    intro hwf hmu
    have hlt : st.macroOff < m.toks.length := by omega
    rw [← List.getElem_eq_getD (h := hlt)] at hm
    simp [flat, hea, flatSubst, List.drop_eq_getElem_cons hlt, hm, substTok, WF]

/-- `macroNext_spec` as two implications, under a fuel bound that does not mention `mu`. -/
theorem macroNext_flat (m : Macro) (f : Nat) (st : MacroState) (hwf : WF m st)
    (hf : 2 * (m.toks.length - st.macroOff) + 1 ≤ f) :
    (∀ t st', macroNext m f st = (some t, st') →
      flat m st = t :: flat m st' ∧ WF m st' ∧ st'.args = st.args ∧ st'.entropy = st.entropy) ∧
    (∀ st', macroNext m f st = (none, st') → flat m st = []) := by
  have h := macroNext_spec m f st hwf (by unfold mu; split <;> omega)
  constructor
  · intro t st' e; rw [e] at h; exact h
  · intro st' e; rw [e] at h; exact h

/-- Pull tokens from a replay state until it reports the end (what the pump does with the
source on top of its stack); the fuel per call is the one `sourceNext` uses. -/
def drain (m : Macro) : Nat → MacroState → List LTok
  | 0, _ => []
  | n + 1, st =>
    match macroNext m (2 * m.toks.length + 2) st with
    | (some t, st') => t :: drain m n st'
    | (none, _) => []

theorem drain_eq_flat (m : Macro) : ∀ n st, WF m st → (flat m st).length < n →
    drain m n st = flat m st := by
  intro n
  induction n with
  | zero => intro st _ h; omega
  | succ n ih =>
    intro st hwf h
    have hn := macroNext_flat m (2 * m.toks.length + 2) st hwf (by omega)
    simp only [drain]
    split
    · rename_i t st' e
      obtain ⟨h1, h2, -⟩ := hn.1 t st' e
      rw [h1, ih st' h2 (by rw [h1] at h; simp at h; omega)]
    · rename_i st' e
      exact (hn.2 st' e).symm

/-- The state a macro invocation pushes.  `macroInvokeF`, `countF`, `numberDirF`, `getMetaF` and
`eachF` (Model/Asm.lean) do not use this definition: each writes the record itself, the three
offsets left at these defaults and `includedFrom := some loc`; no lemma ties the two. -/
def initState (name : String) (args : List (List LTok)) (loc : Loc) (inc : Option Loc)
    (ent : String) : MacroState :=
  { name := name, args := args, macroOff := 0, expandingArg := none, argOff := 0,
    loc := loc, includedFrom := inc, entropy := ent }

/-- **C10, replay = substitution.**  Draining the state pushed by an invocation yields exactly
the macro body with each parameter slot replaced by the tokens of the corresponding argument
(and each `@entropy` by the string of this expansion), in order — for any number of parameters
and any number of uses of each.  The arguments are token lists spliced as they are: they are
never re-scanned for parameter names (by typing, see `substTok`). -/
theorem replay_eq_subst (m : Macro) (name : String) (args : List (List LTok)) (loc : Loc)
    (inc : Option Loc) (ent : String) (n : Nat) (hn : (flatSubst m.toks args ent).length < n) :
    drain m n (initState name args loc inc ent) = flatSubst m.toks args ent :=
  drain_eq_flat m n (initState name args loc inc ent) (fun h => nomatch h) hn

theorem flatSubst_toks (l : List LTok) (args : List (List LTok)) (ent : String) :
    flatSubst (l.map MTok.tok) args ent = l := by
  simp [flatSubst, List.flatMap_map, substTok]

/-- Substitution goes token by token (`flatMap`): what a slot is replaced by does not depend on
what stands next to it. -/
theorem flatSubst_append (b1 b2 : List MTok) (args : List (List LTok)) (ent : String) :
    flatSubst (b1 ++ b2) args ent = flatSubst b1 args ent ++ flatSubst b2 args ent := by
  simp [flatSubst]

/-! The `record_slots_*` proofs are the case analysis `fun_cases slotOf params t`; its four goals
are, in this order: `@entropy` / a global label that is a parameter / any other global label /
anything else. -/

/-- A recorded token is the slot of parameter `i` exactly when it is a *global* label whose name
is a parameter name first occurring at position `i`. -/
theorem record_slots_arg (params : List String) (t : LTok) (i : Nat) :
    slotOf params t = .arg i ↔ ∃ v, t.tok = .label .global v ∧ params.idxOf? v = some i := by
  fun_cases slotOf params t
  · simp
  · rename_i h; simp [h]
  · rename_i h; simp [h]
  · rename_i h; simp [forall_ne_mk.1 (h _)]

theorem record_slots_entropy (params : List String) (t : LTok) (loc : Loc) :
    slotOf params t = .entropy loc ↔ t = ⟨.dir "Entropy", loc⟩ := by
  fun_cases slotOf params t
  · simp
  · simp
  · simp
  · rename_i h _; simpa using h loc

theorem record_slots_tok (params : List String) (t : LTok)
    (h1 : t.tok ≠ .dir "Entropy")
    (h2 : ∀ v, t.tok = .label .global v → params.idxOf? v = none) :
    slotOf params t = .tok t := by
  fun_cases slotOf params t
  · exact absurd rfl h1
  · rename_i h; rw [h2 _ rfl] at h; cases h
  · rfl
  · rfl

theorem record_slots_tok_same (params : List String) (t t' : LTok)
    (h : slotOf params t = .tok t') : t' = t := by
  revert h
  fun_cases slotOf params t
  all_goals intro h; cases h
  all_goals rfl

/-- Local labels, direct (dotted) labels, strings, numbers, mnemonics, registers, symbols … are
never parameter slots, whatever the parameter names. -/
theorem record_slots_not_global (params : List String) (t : LTok)
    (h : ∀ v, t.tok ≠ .label .global v) (i : Nat) : slotOf params t ≠ .arg i := by
  intro e
  obtain ⟨v, hv, _⟩ := (record_slots_arg params t i).1 e
  exact h v hv

theorem record_slots_local (params : List String) (v : String) (loc : Loc) :
    slotOf params ⟨.label .loc v, loc⟩ = .tok ⟨.label .loc v, loc⟩ := rfl
theorem record_slots_direct (params : List String) (v : String) (loc : Loc) :
    slotOf params ⟨.label .direct v, loc⟩ = .tok ⟨.label .direct v, loc⟩ := rfl
theorem record_slots_str (params : List String) (v : String) (loc : Loc) :
    slotOf params ⟨.str v, loc⟩ = .tok ⟨.str v, loc⟩ := rfl
theorem record_slots_num (params : List String) (v : Nat) (loc : Loc) :
    slotOf params ⟨.num v, loc⟩ = .tok ⟨.num v, loc⟩ := rfl

theorem record_slots_other_label (params : List String) (v : String) (loc : Loc)
    (h : v ∉ params) : slotOf params ⟨.label .global v, loc⟩ = .tok ⟨.label .global v, loc⟩ :=
  record_slots_tok params _ (by simp) fun v' hv' => by
    cases hv'; exact List.idxOf?_eq_none_iff.2 h

/-- Line breaks and comments are dropped from an argument. -/
def keep (t : LTok) : Bool := t.tok != .newline && t.tok != .comment

/-- One iteration of `oneArgG` on a token `t`, with `if`s on `t.tok` where the Model has a `match`
on token patterns, so that its users rewrite with `if_pos` / `if_neg` (generic in the token
supply). -/
theorem oneArgG_step {σ : Type} {ops : TokOps σ} {s s' : σ} {t : LTok} {f d : Nat}
    {acc : List LTok} (h : ops.next s = .ok (some t, s')) :
    oneArgG ops (f + 1) d acc s =
      if keep t = false then oneArgG ops f d acc s'
      else if t.tok = .sym "BraceOpen" then
        oneArgG ops f (d + 1) (if d > 0 then acc ++ [t] else acc) s'
      else if t.tok = .sym "BraceClose" then
        if d = 0 then .error ⟨.unexpected, t.loc⟩
        else if d = 1 then .ok (acc, s')
        else oneArgG ops f (d - 1) (acc ++ [t]) s'
      else if d = 0 then .ok (acc ++ [t], s') else oneArgG ops f d (acc ++ [t]) s' := by
  conv => lhs; unfold oneArgG
  rw [h]
  split
  all_goals rename_i heq; cases heq
  · simp [keep]  -- newline
  · simp [keep]  -- comment
  · simp [keep]  -- `{`
  · simp [keep]  -- `}`
  · simp_all [keep, forall_ne_mk]  -- any other token

/-- A token that can stand alone as an argument. -/
def Single (t : LTok) : Prop :=
  t.tok ≠ .newline ∧ t.tok ≠ .comment ∧ t.tok ≠ .sym "BraceOpen" ∧ t.tok ≠ .sym "BraceClose"

instance : DecidablePred Single := fun t => by unfold Single; infer_instance

/-- **Argument shape, single token.**  An argument that starts with a token other than a line
break, a comment or a brace is that single token; the rest of the line is left in place. -/
theorem oneArg_single (t : LTok) (rest : List LTok) (core : CoreSt) (c : Loc) (f : Nat)
    (ht : Single t) :
    oneArgG plainOps (f + 1) 0 [] ⟨t :: rest, core, c⟩ = .ok ([t], ⟨rest, core, t.loc⟩) := by
  simp [oneArgG_step (ParseLemmas.next_cons ..), keep,
    ht.1, ht.2.1, ht.2.2.1, ht.2.2.2]

theorem oneArg_skip_blank (t : LTok) (rest : List LTok) (core : CoreSt) (c : Loc) (f : Nat)
    (ht : t.tok = .newline ∨ t.tok = .comment) :
    oneArgG plainOps (f + 1) 0 [] ⟨t :: rest, core, c⟩ =
      oneArgG plainOps f 0 [] ⟨rest, core, t.loc⟩ := by
  rw [oneArgG_step (ParseLemmas.next_cons ..),
    if_pos (by rcases ht with h | h <;> simp [keep, h])]

theorem oneArg_stray_close (t : LTok) (rest : List LTok) (core : CoreSt) (c : Loc) (f : Nat)
    (ht : t.tok = .sym "BraceClose") :
    oneArgG plainOps (f + 1) 0 [] ⟨t :: rest, core, c⟩ = .error ⟨.unexpected, t.loc⟩ := by
  simp [oneArgG_step (ParseLemmas.next_cons ..), keep, ht]

theorem oneArg_eoi_plain (core : CoreSt) (c : Loc) (f d : Nat) (acc : List LTok) :
    oneArgG plainOps (f + 1) d acc ⟨[], core, c⟩ = .error ⟨.eoi, c⟩ := rfl

inductive Bal : List LTok → Prop
  | nil : Bal []
  | tok (t : LTok) (xs : List LTok) :
      t.tok ≠ .sym "BraceOpen" → t.tok ≠ .sym "BraceClose" → Bal xs → Bal (t :: xs)
  | grp (lb rb : LTok) (xs ys : List LTok) :
      lb.tok = .sym "BraceOpen" → rb.tok = .sym "BraceClose" → Bal xs → Bal ys →
      Bal (lb :: xs ++ rb :: ys)

/-- The location reported after consuming `body`. -/
def lastLoc (c : Loc) (body : List LTok) : Loc := body.foldl (fun _ t => t.loc) c

theorem lastLoc_append (c : Loc) (xs ys : List LTok) :
    lastLoc c (xs ++ ys) = lastLoc (lastLoc c xs) ys := by
  simp [lastLoc, List.foldl_append]

/-- Inside a brace group (depth ≥ 1) a balanced stretch of tokens is appended to the argument
(without line breaks and comments, inner braces kept) and the depth is unchanged. -/
theorem oneArg_bal (body : List LTok) (hb : Bal body) :
    ∀ (f d : Nat) (acc rest : List LTok) (core : CoreSt) (c : Loc), d ≥ 1 →
    oneArgG plainOps (body.length + f) d acc ⟨body ++ rest, core, c⟩ =
      oneArgG plainOps f d (acc ++ body.filter keep) ⟨rest, core, lastLoc c body⟩ := by
  induction hb with
  | nil => intro f d acc rest core c _; simp [lastLoc]
  | tok t xs h3 h4 _ ih =>
    intro f d acc rest core c hd
    have hd0 : d ≠ 0 := by omega
    rw [List.length_cons, Nat.add_right_comm, List.cons_append,
      oneArgG_step (ParseLemmas.next_cons ..),
      if_neg h3, if_neg h4, if_neg hd0]
    cases hk : keep t <;> simp [hk, ih _ _ _ _ _ _ hd, lastLoc]
  | grp lb rb xs ys hl hr _ _ ihx ihy =>
    intro f d acc rest core c hd
    have hlen : (lb :: xs ++ rb :: ys).length + f = (xs.length + ((ys.length + f) + 1)) + 1 := by
      simp; omega
    have hd0 : d ≠ 0 := by omega
    have hkl : keep lb = true := by simp [keep, hl]
    have hkr : keep rb = true := by simp [keep, hr]
    -- consume `lb` (kept: `d > 0`), `ihx` on `xs` one level deeper, one step on `rb`; the `simp`
    -- takes that step (a closer at depth `d + 1 ≥ 2`: kept, back to `d`) and ends with `ihy` on `ys`
    rw [hlen, List.cons_append, List.cons_append, List.append_assoc,
      oneArgG_step (ParseLemmas.next_cons ..),
      if_neg (by simp [hkl]), if_pos hl, if_pos (by omega),
      ihx _ (d + 1) _ _ core _ (by omega), List.cons_append,
      oneArgG_step (ParseLemmas.next_cons ..)]
    simp [hkr, hr, hd0, ihy f d _ rest core _ hd, hkl, lastLoc, List.foldl_append]

/-- **Argument shape, brace group (balanced nesting).**  `{ body }` with `body` balanced in
braces is one argument: its tokens are those of `body` (inner braces kept, line breaks and
comments dropped), the outer braces are not part of it, and what follows `}` is left in place. -/
theorem oneArg_braces_nested (lb rb : LTok) (body rest : List LTok) (core : CoreSt) (c : Loc)
    (f : Nat) (hl : lb.tok = .sym "BraceOpen") (hr : rb.tok = .sym "BraceClose")
    (hb : Bal body) (hf : f ≥ body.length + 2) :
    oneArgG plainOps f 0 [] ⟨lb :: body ++ rb :: rest, core, c⟩ =
      .ok (body.filter keep, ⟨rest, core, rb.loc⟩) := by
  obtain ⟨k, rfl⟩ : ∃ k, f = (body.length + (k + 1)) + 1 := ⟨f - body.length - 2, by omega⟩
  rw [List.cons_append, oneArgG_step (ParseLemmas.next_cons ..),
    if_neg (by simp [keep, hl]), if_pos hl, if_neg (Nat.lt_irrefl 0),
    oneArg_bal body hb (k + 1) 1 [] (rb :: rest) core _ (Nat.le_refl 1),
    oneArgG_step (ParseLemmas.next_cons ..)]
  simp [keep, hr]

theorem bal_of_no_brace (body : List LTok)
    (h : ∀ t ∈ body, t.tok ≠ .sym "BraceOpen" ∧ t.tok ≠ .sym "BraceClose") : Bal body := by
  induction body with
  | nil => exact .nil
  | cons t xs ih =>
    exact .tok t xs (h t (by simp)).1 (h t (by simp)).2
      (ih fun u hu => h u (List.mem_cons_of_mem _ hu))

/-- **Argument shape, brace group (the common case).**  `{ body }` where `body` holds no brace,
line break or comment is one argument consisting of exactly the tokens of `body`. -/
theorem oneArg_braces (lb rb : LTok) (body rest : List LTok) (core : CoreSt) (c : Loc)
    (f : Nat) (hl : lb.tok = .sym "BraceOpen") (hr : rb.tok = .sym "BraceClose")
    (hb : ∀ t ∈ body, Single t) (hf : f > body.length + 2) :
    oneArgG plainOps f 0 [] ⟨lb :: body ++ rb :: rest, core, c⟩ =
      .ok (body, ⟨rest, core, rb.loc⟩) := by
  rw [oneArg_braces_nested lb rb body rest core c f hl hr
    (bal_of_no_brace body fun t ht => (hb t ht).2.2) (by omega),
    List.filter_eq_self.2 fun t ht => by simp [keep, (hb t ht).1, (hb t ht).2.1]]

section examples
def l0 : Loc := {}
def P : LTok := ⟨.label .global "P", l0⟩
def comma : LTok := ⟨.sym "Comma", l0⟩
def db : LTok := ⟨.dir "Db", l0⟩
def n5 : LTok := ⟨.num 5, l0⟩
def n6 : LTok := ⟨.num 6, l0⟩
def plus : LTok := ⟨.sym "Plus", l0⟩
def lbr : LTok := ⟨.sym "BraceOpen", l0⟩
def rbr : LTok := ⟨.sym "BraceClose", l0⟩

/-- the macro `@macro M, P` with body `@db P, P` as recorded by `slotOf ["P"]` -/
def mM : Macro := { args := ["P"], toks := [db, P, comma, P].map (slotOf ["P"]) }

example : mM.toks = [.tok db, .arg 0, .tok comma, .arg 0] := rfl

/-- `M {5 + 6}` replays to `@db 5 + 6 , 5 + 6`. -/
example : drain mM 20 (initState "M" [[n5, plus, n6]] l0 none "__0") =
    [db, n5, plus, n6, comma, n5, plus, n6] := by decide

example : flatSubst mM.toks [[n5, plus, n6]] "__0" = [db, n5, plus, n6, comma, n5, plus, n6] := by
  decide

/-- the argument `{5 + 6}` is read as the three tokens `5 + 6` -/
example : oneArgG plainOps 10 0 [] ⟨[lbr, n5, plus, n6, rbr, comma], {}, l0⟩ =
    .ok ([n5, plus, n6], ⟨[comma], {}, l0⟩) :=
  oneArg_braces lbr rbr [n5, plus, n6] [comma] {} l0 10 rfl rfl (by decide) (by decide)

/-- nested braces are kept: `{ {5} 6 }` is the argument `{5} 6` -/
example : oneArgG plainOps 10 0 [] ⟨[lbr, lbr, n5, rbr, n6, rbr], {}, l0⟩ =
    .ok ([lbr, n5, rbr, n6], ⟨[], {}, l0⟩) :=
  oneArg_braces_nested lbr rbr [lbr, n5, rbr, n6] [] {} l0 10 rfl rfl
    (.grp lbr rbr [n5] [n6] rfl rfl (.tok n5 [] (by decide) (by decide) .nil)
      (.tok n6 [] (by decide) (by decide) .nil)) (by decide)

/-- a zero-parameter macro and an unused parameter -/
example : flatSubst [.tok db, .tok n5] [] "__1" = [db, n5] := by decide
example : flatSubst [.tok db, .tok n5] [[n6]] "__1" = [db, n5] := by decide
end examples

end Az65.Thm.C10
