import Az65.Lemmas.AbsFrame
/-
C05 — a symbol defined later gives the same result as one defined earlier.

The property is proved as claims about single steps:
* the pending patches are well-formed in every reachable state (`run_init_linksWf`): what the hook
  observes on the implementation before link;
* per link kind, the deferred path — placeholder now, `applyLink` once the expression has a value
  `v` — accepts exactly when the immediate path accepts `v` and yields the same bytes at the same
  offset (`*_deferred_eq_immediate`, all instances of `immediate_ok` / `deferred_ok`);
* a name that was referenced and is never defined fails the link (`undefined_fails`), reading an
  expression records every name in it (`resolve_records_*`), and a patch still unsolved at link time
  is an error (`unsolved_at_link_fails`);
* `@org`, `@ds`, `@align` and struct members reject an operand without a value (`needs_now_*`).
No theorem composes these into one about two whole programs, and none about `applyLink` or `link`
assumes `LinksWf`; a program is compared with the same program, definition moved, on runs by the C05
check.
-/
namespace Az65.Thm.C05
open Az65 Az65.LinkLemmas Az65.AbsFrame

/-- What the C05 hook observes before link, as a predicate on the core state: patch ranges (a) lie
inside the image, (b) are ordered and pairwise disjoint, (c) still hold their zero placeholders;
assertion links carry no range.  It is `Wf c.links c.data` (`linksWf_iff`). -/
structure LinksWf (c : CoreSt) : Prop where
  inside : ∀ l ∈ c.links, l.kind ≠ .assert → l.offset + l.len ≤ c.dataLen
  disjoint : c.links.Pairwise
    (fun l1 l2 => l1.kind = .assert ∨ l2.kind = .assert ∨ l1.offset + l1.len ≤ l2.offset)
  zero : ∀ l ∈ c.links, l.kind ≠ .assert → ∀ i < l.len, c.data[l.offset + i]? = some 0

theorem linksWf_iff (c : CoreSt) : LinksWf c ↔ Wf c.links c.data :=
  ⟨fun h => ⟨dataLen_eq c ▸ h.inside, h.disjoint, h.zero⟩,
   fun h => ⟨(dataLen_eq c).symm ▸ h.inside, h.disjoint, h.zero⟩⟩

theorem linksWf_of_grow {c c' : CoreSt} {bs : List Nat} (g : Grow c c' bs) (h : LinksWf c) :
    LinksWf c' :=
  (linksWf_iff _).2 (g.wf ((linksWf_iff _).1 h))

theorem LinksWf.append {c c' : CoreSt} (h : LinksWf c) (bs : List Nat) (hl : c'.links = c.links)
    (hd : c'.dataRev = bs.reverse ++ c.dataRev) : LinksWf c' :=
  linksWf_of_grow (.append hd hl) h

/-- **C05 (invariant, whole program).**  If the patch ranges of `s` lie inside the image, are
ordered and pairwise disjoint and hold zero placeholders, so do those of the state any accepted
statement list leads to. -/
theorem run_linksWf {prog : List Abs.Stmt} {s s' : Abs.State} (hw : LinksWf s.core)
    (h : Abs.run s prog = .ok s') : LinksWf s'.core :=
  let ⟨_, g⟩ := run_grow h
  linksWf_of_grow g hw

/-- **C05 (observation).**  After assembling any program from the empty state the patch ranges
lie inside the image, are pairwise disjoint and still hold zero placeholders before link. -/
theorem run_init_linksWf {prog : List Abs.Stmt} {s' : Abs.State}
    (h : Abs.run {} prog = .ok s') : LinksWf s'.core :=
  run_linksWf ((linksWf_iff _).2 Wf.nil) h

theorem ite_ok_iff {α : Type} {b : Prop} [Decidable b] {e : Err} {x : α} {r : Except Err α}
    (h : r = if b then .error e else .ok x) :
    ((∃ d, r = .ok d) ↔ ¬ b) ∧ ∀ d, r = .ok d → d = x := by
  subst h
  exact ⟨⟨fun ⟨_, hd⟩ => (ok_of_ite hd).1, fun hb => ⟨x, if_neg hb⟩⟩,
    fun d hd => by cases (ok_of_ite hd).2; rfl⟩

/-- Number of bytes `applyLink` writes for a link of each kind.  Apart from `space` it does not look
at `l.len`; every emitter registers `len` equal to it (1, 1, 2, the space length, 0), but no theorem
says so of the links of a reachable state. -/
def patchLen (l : Link) : Nat :=
  match l.kind with
  | .byte => 1 | .signedByte => 1 | .word => 2 | .space => l.len | .assert => 0

/-- The range test `applyLink` makes for each kind: the one the emitter makes on the immediate path
of the same operand. -/
def outOfRange : LinkKind → I32 → Prop
  | .signedByte, v => v.toInt < -128 ∨ v.toInt > 127
  | .word, v => u32 v > 65535
  | _, v => u32 v > 255

instance (k : LinkKind) (v : I32) : Decidable (outOfRange k v) := by
  cases k <;> unfold outOfRange <;> infer_instance

def patchBytes (l : Link) (v : I32) : List Nat :=
  match l.kind with
  | .byte | .signedByte => [lowByte v]
  | .word => [u32 v % 256, u32 v / 256 % 256]
  | .space => List.replicate l.len (lowByte v)
  | .assert => []

theorem patchBytes_length (l : Link) (v : I32) : (patchBytes l v).length = patchLen l := by
  unfold patchBytes patchLen; cases l.kind <;> simp

theorem applyLink_solved {c : CoreSt} {d : List Nat} {l : Link} {v : I32} (hk : l.kind ≠ .assert)
    (hv : evaluate c.symtab l.expr = .ok v) :
    applyLink c d l =
      if outOfRange l.kind v then .error ⟨.range, l.loc⟩
      else if l.offset + patchLen l ≤ d.length then .ok (patchAt d l.offset (patchBytes l v))
      else .error ⟨.crash "link: index out of bounds", l.loc⟩ := by
  unfold applyLink patchLen patchBytes
  rw [hv]
  cases h : l.kind <;> first | exact absurd h hk | rfl

theorem applyLink_placeholder {c : CoreSt} {l : Link} {v : I32} (xs ys : List Nat)
    (hk : l.kind ≠ .assert) (hoff : l.offset = xs.length) (hv : evaluate c.symtab l.expr = .ok v) :
    applyLink c (xs ++ List.replicate (patchLen l) 0 ++ ys) l =
      if outOfRange l.kind v then .error ⟨.range, l.loc⟩ else .ok (xs ++ patchBytes l v ++ ys) := by
  rw [applyLink_solved hk hv]
  split
  · rfl
  · rw [if_pos (by simp [hoff]), hoff, patchAt_mid xs ys _ _ (patchBytes_length l v)]

theorem applyLink_assert (c' : CoreSt) (d : List Nat) (l : Link) (v : I32)
    (hk : l.kind = .assert) (hv : evaluate c'.symtab l.expr = .ok v) :
    applyLink c' d l = if v = 0 then .error ⟨.assertFail, l.loc⟩ else .ok d := by
  unfold applyLink
  simp only [hv, hk]

theorem immediate_ok {c ci : CoreSt} {bs : List Nat} {b P : Prop} [Decidable b] {e : Err}
    {imm : Except Err CoreSt} (himm : imm = if b then .error e else .ok ci)
    (hci : ci.data = c.data ++ bs) (hP : ¬ b ↔ P) :
    ((∃ c1, imm = .ok c1) ↔ P) ∧ ∀ c1, imm = .ok c1 → c1.data = c.data ++ bs := by
  obtain ⟨h1, h2⟩ := ite_ok_iff himm
  exact ⟨h1.trans hP, fun c1 h => h2 c1 h ▸ hci⟩

/-- The deferred path.  `c2` is `c` after registering `l` at the end of the image and pushing its
placeholder; `later` stands for whatever is assembled afterwards and `st'` for the final table, both
arbitrary: the outcome depends on them only through the value `v` of `l.expr` in `st'`. -/
theorem deferred_ok {c c2 : CoreSt} {l : Link} {v : I32} {P : Prop} (hk : l.kind ≠ .assert)
    (hoff : l.offset = c.dataLen) (hc2 : c2.data = c.data ++ List.replicate (patchLen l) 0)
    (hP : ¬ outOfRange l.kind v ↔ P) (st' : Env) (later : List Nat)
    (hv : evaluate st' l.expr = .ok v) :
    ((∃ d, applyLink { c2 with symtab := st' } (c2.data ++ later) l = .ok d) ↔ P) ∧
    ∀ d, applyLink { c2 with symtab := st' } (c2.data ++ later) l = .ok d →
      d = c.data ++ patchBytes l v ++ later := by
  rw [hc2]
  obtain ⟨h1, h2⟩ := ite_ok_iff (applyLink_placeholder (c := { c2 with symtab := st' }) c.data
    later hk (hoff.trans (dataLen_eq c)) hv)
  exact ⟨h1.trans hP, h2⟩

/-- **C05 (`@db` item, patch = immediate).**  With room for one byte: the immediate path accepts
`v` iff `v ≤ 255` (as `u32`) and writes `lowByte v`; the deferred path writes a zero placeholder and
registers a `byte` link at that offset; when a later definition makes the expression evaluate to
`v`, resolving that link (in the final image `c2.data ++ later`) is accepted iff `v ≤ 255` and
yields exactly the bytes of the immediate path, at the same offset. -/
theorem byte_deferred_eq_immediate (c : CoreSt) (v : I32) (ns : List Node) (loc : Loc)
    (hh : c.here + 1 ≤ TOP) :
    ((∃ c1, Eff.dbVal c (some v) ns loc = .ok c1) ↔ u32 v ≤ 255) ∧
    (∀ c1, Eff.dbVal c (some v) ns loc = .ok c1 → c1.data = c.data ++ [lowByte v]) ∧
    ∃ c2, Eff.dbVal c none ns loc = .ok c2 ∧ c2.data = c.data ++ [0] ∧
      c2.links = c.links ++ [⟨.byte, loc, c.dataLen, 1, ns, none⟩] ∧
      ∀ (st' : Env) (later : List Nat), evaluate st' ns = .ok v →
        ((∃ d, applyLink { c2 with symtab := st' } (c2.data ++ later)
            ⟨.byte, loc, c.dataLen, 1, ns, none⟩ = .ok d) ↔ u32 v ≤ 255) ∧
        ∀ d, applyLink { c2 with symtab := st' } (c2.data ++ later)
            ⟨.byte, loc, c.dataLen, 1, ns, none⟩ = .ok d → d = c.data ++ [lowByte v] ++ later := by
  have hh' : ¬ c.here + 1 > TOP := by omega
  have himm : Eff.dbVal c (some v) ns loc = if u32 v > 255 then .error ⟨.range, loc⟩
      else .ok { c.push (lowByte v) with here := c.here + 1 } := by
    simp only [Eff.dbVal, hh', if_false]
  have hd : ∀ l, CoreSt.data { (c.addLink l).push 0 with here := c.here + 1 } = c.data ++ [0] :=
    fun l => data_push (c.addLink l) 0
  obtain ⟨h1, h2⟩ := immediate_ok himm (data_push c _) Nat.not_lt
  exact ⟨h1, h2, _, by simp only [Eff.dbVal, hh', if_false], hd _, rfl,
    deferred_ok (l := ⟨.byte, loc, c.dataLen, 1, ns, none⟩) nofun rfl (hd _) Nat.not_lt⟩

/-- **C05 (`@dw` item, patch = immediate).**  As for `@db`, with two little-endian bytes and the
test `v ≤ 65535`. -/
theorem word_deferred_eq_immediate (c : CoreSt) (v : I32) (ns : List Node) (loc : Loc)
    (hh : c.here + 2 ≤ TOP) :
    ((∃ c1, Eff.dwVal c (some v) ns loc = .ok c1) ↔ u32 v ≤ 65535) ∧
    (∀ c1, Eff.dwVal c (some v) ns loc = .ok c1 →
      c1.data = c.data ++ [u32 v % 256, u32 v / 256 % 256]) ∧
    ∃ c2, Eff.dwVal c none ns loc = .ok c2 ∧ c2.data = c.data ++ [0, 0] ∧
      c2.links = c.links ++ [⟨.word, loc, c.dataLen, 2, ns, none⟩] ∧
      ∀ (st' : Env) (later : List Nat), evaluate st' ns = .ok v →
        ((∃ d, applyLink { c2 with symtab := st' } (c2.data ++ later)
            ⟨.word, loc, c.dataLen, 2, ns, none⟩ = .ok d) ↔ u32 v ≤ 65535) ∧
        ∀ d, applyLink { c2 with symtab := st' } (c2.data ++ later)
            ⟨.word, loc, c.dataLen, 2, ns, none⟩ = .ok d →
          d = c.data ++ [u32 v % 256, u32 v / 256 % 256] ++ later := by
  have hh' : ¬ c.here + 2 > TOP := by omega
  have himm : Eff.dwVal c (some v) ns loc = if u32 v > 65535 then .error ⟨.range, loc⟩
      else .ok { (c.push (u32 v % 256)).push (u32 v / 256 % 256) with here := c.here + 2 } := by
    simp only [Eff.dwVal, hh', if_false]
  have hd : ∀ (c0 : CoreSt) a b, CoreSt.data { (c0.push a).push b with here := c.here + 2 } =
      c0.data ++ [a, b] := fun c0 a b => by simp [CoreSt.data, CoreSt.push]
  obtain ⟨h1, h2⟩ := immediate_ok himm (hd c _ _) Nat.not_lt
  exact ⟨h1, h2, _, by simp only [Eff.dwVal, hh', if_false], hd (c.addLink _) 0 0, rfl,
    deferred_ok (l := ⟨.word, loc, c.dataLen, 2, ns, none⟩) nofun rfl (hd (c.addLink _) 0 0)
      Nat.not_lt⟩

/-- **C05 (`@ds` fill, patch = immediate).**  A solved fill `v` is accepted iff `v ≤ 255` and
writes `size` copies of `lowByte v`; an unsolved fill writes `size` zeros and registers a `space`
link over exactly that range; resolving it with final value `v` is accepted iff `v ≤ 255` and
yields the same `size` copies at the same offset. -/
theorem space_deferred_eq_immediate (c : CoreSt) (size : Nat) (v : I32) (ns : List Node) (loc : Loc) :
    ((∃ c1, Eff.dsFill c size (some (some v)) ns loc = .ok c1) ↔ u32 v ≤ 255) ∧
    (∀ c1, Eff.dsFill c size (some (some v)) ns loc = .ok c1 →
      c1.data = c.data ++ List.replicate size (lowByte v)) ∧
    ∃ c2, Eff.dsFill c size (some none) ns loc = .ok c2 ∧
      c2.data = c.data ++ List.replicate size 0 ∧
      c2.links = c.links ++ [⟨.space, loc, c.dataLen, size, ns, none⟩] ∧
      ∀ (st' : Env) (later : List Nat), evaluate st' ns = .ok v →
        ((∃ d, applyLink { c2 with symtab := st' } (c2.data ++ later)
            ⟨.space, loc, c.dataLen, size, ns, none⟩ = .ok d) ↔ u32 v ≤ 255) ∧
        ∀ d, applyLink { c2 with symtab := st' } (c2.data ++ later)
            ⟨.space, loc, c.dataLen, size, ns, none⟩ = .ok d →
          d = c.data ++ List.replicate size (lowByte v) ++ later := by
  have himm : Eff.dsFill c size (some (some v)) ns loc = if u32 v > 255 then .error ⟨.range, loc⟩
      else .ok (c.pushAll (List.replicate size (lowByte v))) := rfl
  obtain ⟨h1, h2⟩ := immediate_ok himm (data_pushAll c _) Nat.not_lt
  exact ⟨h1, h2, _, rfl, data_pushAll (c.addLink _) _, rfl,
    deferred_ok (l := ⟨.space, loc, c.dataLen, size, ns, none⟩) nofun rfl
      (data_pushAll (c.addLink _) _) Nat.not_lt⟩

/-- The node list a relative-branch operand is evaluated as: the (resolved) target expression
minus the address after the two-byte instruction. -/
def relNodes (c : CoreSt) (e : List Node) : List Node :=
  (Abs.resolve c e).2 ++ [.val (i32OfNat ((c.here + 2) % 4294967296)), .sub]

theorem piece_rel_eq (c : CoreSt) (e : List Node) :
    Abs.piece c (.rel e) =
      match evaluate c.symtab (relNodes c e) with
      | .crash s => .error ⟨.crash s, {}⟩
      | .ok v =>
        if v.toInt < -128 ∨ v.toInt > 127 then .error ⟨.range, {}⟩
        else .ok ((Abs.resolve c e).1.push (lowByte v))
      | .unsolved =>
        .ok (((Abs.resolve c e).1.addLink
          ⟨.signedByte, {}, c.dataLen, 1, relNodes c e, none⟩).push 0) := by
  have h1 := resolve_here c e
  have h2 := resolve_symtab c e
  have h3 := resolve_dataLen c e
  simp only [Abs.piece, relNodes, Abs.ev, evalOpt, CoreSt.eval]
  generalize Abs.resolve c e = p at h1 h2 h3
  rw [h1, h2, h3]
  cases evaluate c.symtab (p.2 ++ [.val (i32OfNat ((c.here + 2) % 4294967296)), .sub]) <;> rfl

/-- **C05 (relative branch, patch = immediate).**  The displacement `target − (here+2)`: if it can
be computed now it is accepted iff `−128 ≤ v ≤ 127` and its low byte is written; if it is unsolved
now, a zero placeholder and a `signedByte` link over the same expression are registered, and
resolving the link with final value `v` is accepted iff `−128 ≤ v ≤ 127` and yields the same byte
at the same offset. -/
theorem rel_deferred_eq_immediate (c : CoreSt) (e : List Node) :
    (∀ v, evaluate c.symtab (relNodes c e) = .ok v →
      ((∃ c1, Abs.piece c (.rel e) = .ok c1) ↔ (-128 ≤ v.toInt ∧ v.toInt ≤ 127)) ∧
      ∀ c1, Abs.piece c (.rel e) = .ok c1 → c1.data = c.data ++ [lowByte v]) ∧
    (evaluate c.symtab (relNodes c e) = .unsolved →
      ∃ c2, Abs.piece c (.rel e) = .ok c2 ∧ c2.data = c.data ++ [0] ∧
        c2.links = c.links ++ [⟨.signedByte, {}, c.dataLen, 1, relNodes c e, none⟩] ∧
        ∀ (st' : Env) (later : List Nat) (v : I32), evaluate st' (relNodes c e) = .ok v →
          ((∃ d, applyLink { c2 with symtab := st' } (c2.data ++ later)
              ⟨.signedByte, {}, c.dataLen, 1, relNodes c e, none⟩ = .ok d) ↔
            (-128 ≤ v.toInt ∧ v.toInt ≤ 127)) ∧
          ∀ d, applyLink { c2 with symtab := st' } (c2.data ++ later)
              ⟨.signedByte, {}, c.dataLen, 1, relNodes c e, none⟩ = .ok d →
            d = c.data ++ [lowByte v] ++ later) := by
  have hrange : ∀ v : I32, ¬ (v.toInt < -128 ∨ v.toInt > 127) ↔ (-128 ≤ v.toInt ∧ v.toInt ≤ 127) := by
    intro v; omega
  have hp := piece_rel_eq c e
  constructor
  · intro v hv
    rw [hv] at hp
    exact immediate_ok hp ((data_push ..).trans (by rw [resolve_data])) (hrange v)
  · intro hv
    rw [hv] at hp
    have hd : CoreSt.data (((Abs.resolve c e).1.addLink
        ⟨.signedByte, {}, c.dataLen, 1, relNodes c e, none⟩).push 0) = c.data ++ [0] :=
      (data_push ..).trans (by rw [data_addLink, resolve_data])
    exact ⟨_, hp, hd, by rw [links_push, links_addLink, resolve_links],
      fun st' later v => deferred_ok (l := ⟨.signedByte, {}, c.dataLen, 1, relNodes c e, none⟩)
        nofun rfl hd (hrange v) st' later⟩

/-- **C05 (`@assert`, patch = immediate).**  A solved assertion fails the build iff its value is 0
and otherwise changes nothing; an unsolved one registers an `assert` link (no bytes), and at link
time a final value 0 fails the build with the same diagnostic class while a non-zero value leaves
the image unchanged. -/
theorem assert_deferred_eq_immediate (c : CoreSt) (v : I32) (ns : List Node) (msg : Option String)
    (loc : Loc) :
    (Eff.assert c (some v) ns msg loc =
      if v = 0 then .error ⟨.assertFail, loc⟩ else .ok c) ∧
    ∃ c2, Eff.assert c none ns msg loc = .ok c2 ∧ c2.data = c.data ∧
      c2.links = c.links ++ [⟨.assert, loc, 0, 0, ns, msg⟩] ∧
      ∀ (st' : Env) (d : List Nat), evaluate st' ns = .ok v →
        applyLink { c2 with symtab := st' } d ⟨.assert, loc, 0, 0, ns, msg⟩ =
          if v = 0 then .error ⟨.assertFail, loc⟩ else .ok d := by
  refine ⟨rfl, _, rfl, rfl, rfl, ?_⟩
  intro st' d hv
  exact applyLink_assert _ d ⟨.assert, loc, 0, 0, ns, msg⟩ v rfl hv

/-- **C05 (a patch writes only its own range).**  Resolving one link keeps the image length and
every byte outside `[offset, offset + patchLen l)` — `patchLen l`, not `l.len`: see `patchLen`. -/
theorem applyLink_frame (c : CoreSt) (d d' : List Nat) (l : Link) (h : applyLink c d l = .ok d') :
    d'.length = d.length ∧
    ∀ i, i < l.offset ∨ l.offset + patchLen l ≤ i → d'[i]? = d[i]? := by
  cases hv : evaluate c.symtab l.expr with
  | ok v =>
    by_cases hk : l.kind = .assert
    · rw [applyLink_assert c d l v hk hv] at h
      split at h <;> cases h
      exact ⟨rfl, fun _ _ => rfl⟩
    · rw [applyLink_solved hk hv] at h
      split at h
      · cases h
      split at h
      · next hb =>
        cases h
        rw [← patchBytes_length l v] at hb ⊢
        exact ⟨patchAt_length _ _ _ hb, fun i hi => patchAt_getElem?_outside _ _ _ _ hb hi⟩
      · cases h
  | _ => simp [applyLink, hv] at h

theorem checkRefs_undefined (c : CoreSt) (hs : List (String × Loc)) (n : String) (loc : Loc)
    (h : (n, loc) ∈ hs) (hn : c.symtab.get n = none) :
    ∃ e, checkRefs c hs = .error e ∧ (e.kind = .undefined ∨ ∃ s, e.kind = .crash s) := by
  have tail {m l r en} (h : (n, loc) ∈ (m, l) :: r) (hm : c.symtab.get m = some en) :
      (n, loc) ∈ r :=
    (List.mem_cons.1 h).resolve_left fun heq => by cases heq; rw [hn] at hm; cases hm
  fun_induction checkRefs c hs with
  | case1 => cases h
  | case2 m l r hm => exact ⟨_, rfl, .inl rfl⟩  -- `m` undefined
  | case3 m l r en hm v hv ih => exact ih (tail h hm)  -- `m` a plain value
  | case4 m l r en hm body hb v hv ih => exact ih (tail h hm)  -- `m` lazy, solved
  | case5 m l r en hm body hb hv => exact ⟨_, rfl, .inl rfl⟩  -- `m` lazy, unsolved
  | case6 m l r en hm body hb s hv => exact ⟨_, rfl, .inr ⟨s, rfl⟩⟩  -- `m` lazy, a panic site

theorem checkRefs_first_undefined (c : CoreSt) : ∀ (pre : List (String × Loc)) (n : String)
    (loc : Loc) (post : List (String × Loc)),
    (∀ p ∈ pre, ∃ en v, c.symtab.get p.1 = some en ∧ en.sym = .val v) →
    c.symtab.get n = none →
    checkRefs c (pre ++ (n, loc) :: post) = .error ⟨.undefined, loc⟩
  | [], n, loc, post, _, hn => by simp [checkRefs, hn]
  | (m, l) :: r, n, loc, post, hpre, hn => by
    obtain ⟨en, v, hm, hv⟩ := hpre (m, l) (by simp)
    simp only [List.cons_append, checkRefs, hm, hv]
    exact checkRefs_first_undefined c r n loc post (fun p hp => hpre p (by simp [hp])) hn

/-- **C05 (undefined reference).**  A name that was referenced (it is in the first-reference
table) and has no definition when assembly ends makes the link fail: it is never assembled as
zero.  The failure is of class `undefined`, or of class `crash` when the lazy definition of an
earlier name of the first-reference table hits a panic site of the evaluator first. -/
theorem undefined_fails_kind (c : CoreSt) (n : String) (loc : Loc) (hh : (n, loc) ∈ c.hits)
    (hn : c.symtab.get n = none) :
    ∃ e, link c = .error e ∧ (e.kind = .undefined ∨ ∃ s, e.kind = .crash s) := by
  obtain ⟨e, he, hk⟩ := checkRefs_undefined c c.hits n loc hh hn
  exact ⟨e, by simp [link, he], hk⟩

theorem undefined_fails (c : CoreSt) (n : String) (loc : Loc) (hh : (n, loc) ∈ c.hits)
    (hn : c.symtab.get n = none) : ∃ e, link c = .error e :=
  let ⟨e, he, _⟩ := undefined_fails_kind c n loc hh hn
  ⟨e, he⟩

theorem undefined_fails_assemble (prog : List Abs.Stmt) (s : Abs.State) (n : String) (loc : Loc)
    (hr : Abs.run {} prog = .ok s) (hh : (n, loc) ∈ s.core.hits)
    (hn : s.core.symtab.get n = none) : ∃ e, Abs.assembleAbs prog = .error e := by
  obtain ⟨e, he⟩ := undefined_fails s.core n loc hh hn
  exact ⟨e, by simp [Abs.assembleAbs, hr, he]⟩

/-- **C05 (every label reference is recorded).**  Reading an expression records every label it
mentions (other than `@here`) in the first-reference table. -/
theorem resolve_records_label : ∀ (e : List Node) (c : CoreSt) (n : String),
    Node.label n ∈ e → n ≠ "@here" → n ∈ (Abs.resolve c e).1.hits.map (·.1) :=
  fun e c n h hn =>
    (mem_hits_resolve c e n).2 (.inr (List.mem_filterMap.2 ⟨_, h, if_neg hn⟩))

/-- **C05 (every `@sizeof` reference is recorded).** -/
theorem resolve_records_sizeOf : ∀ (e : List Node) (c : CoreSt) (n : String),
    Node.sizeOf n ∈ e → n ∈ (Abs.resolve c e).1.hits.map (·.1) :=
  fun e c n h => (mem_hits_resolve c e n).2 (.inr (List.mem_filterMap.2 ⟨_, h, rfl⟩))

/-! **C05 (needs its value now).**  `@org`, the `@ds` size, `@align` and struct members reject an
operand that has no value when it is read (`needs_now_*`).  The property's other cases are not
theorems of this file: bit numbers and `rst` vectors are rows of the C01/C02 form tables, `@if` and
`@count` are steps of the token-level model (`Model/Stmt.lean`, `Model/Asm.lean`). -/

theorem needs_now_org (c : CoreSt) (loc : Loc) : Eff.org c none loc = .error ⟨.needsNow, loc⟩ := rfl

theorem needs_now_dsSize (c : CoreSt) (loc : Loc) :
    Eff.dsSize c none loc = .error ⟨.needsNow, loc⟩ := rfl

theorem needs_now_align (c : CoreSt) (code : Bool) (loc : Loc) :
    Eff.align c code none loc = .error ⟨.needsNow, loc⟩ := rfl

theorem needs_now_member (sname name : String) (c : CoreSt) (size : I32) (m : Abs.Member)
    (e : List Node) (hm : m = .field name e ∨ m = .pad e ∨ m = .align e)
    (hu : Abs.ev (Abs.resolve c e).1 (Abs.resolve c e).2 = .ok none) :
    Abs.member sname c size m = .error ⟨.needsNow, {}⟩ := by
  rcases hm with rfl | rfl | rfl <;> simp only [Abs.member, hu]

theorem needs_now_exec (s : Abs.State) (e : List Node) (fill : Option (List Node))
    (hu : Abs.ev (Abs.resolve s.core e).1 (Abs.resolve s.core e).2 = .ok none) :
    Abs.exec s (.org e) = .error ⟨.needsNow, {}⟩ ∧
    Abs.exec s (.ds e fill) = .error ⟨.needsNow, {}⟩ ∧
    Abs.exec s (.align e) = .error ⟨.needsNow, {}⟩ := by
  simp only [Abs.exec, hu]
  exact ⟨rfl, rfl, rfl⟩

/-- **C05 (unsolved at link).**  A patch whose expression still cannot be solved at link time is
an error of class `unsolved`, never a silent zero. -/
theorem unsolved_at_link_fails (c : CoreSt) (d : List Nat) (l : Link)
    (h : evaluate c.symtab l.expr = .unsolved) : applyLink c d l = .error ⟨.unsolved, l.loc⟩ := by
  simp only [applyLink, h]

theorem applyLinks_unsolved (c : CoreSt) (ls : List Link) (d : List Nat) (l : Link) (h : l ∈ ls)
    (hu : evaluate c.symtab l.expr = .unsolved) : ∃ e, applyLinks c d ls = .error e := by
  fun_induction applyLinks c d ls with
  | case1 => cases h
  | case2 d m r e hm => exact ⟨e, rfl⟩
  | case3 d m r d' hm ih =>
    rcases List.mem_cons.1 h with rfl | hin
    · rw [unsolved_at_link_fails c d l hu] at hm; cases hm
    · exact ih hin

theorem unsolved_link_fails (c : CoreSt) (l : Link) (hl : l ∈ c.links)
    (hu : evaluate c.symtab l.expr = .unsolved) : ∃ e, link c = .error e := by
  unfold link
  cases checkRefs c c.hits with
  | error e => exact ⟨e, rfl⟩
  | ok _ => exact applyLinks_unsolved c c.links c.data l hl hu

section Examples
open Abs

private def cDeferred : CoreSt :=
  { (({} : CoreSt).addLink ⟨.byte, {}, 0, 1, [.label "x"], none⟩).push 0 with here := 1 }

example : Eff.dbVal {} none [.label "x"] {} = .ok cDeferred := rfl
example : LinksWf cDeferred :=
  linksWf_of_grow (Eff.dbVal_adv (rfl : Eff.dbVal {} none [.label "x"] {} = .ok cDeferred)).toGrow
    ((linksWf_iff _).2 Wf.nil)

example : link (cDeferred.insert "x" (.val 5)) = .ok [5] := by rfl
example : (Eff.dbVal {} (some 5) [.label "x"] {}).map (·.data) = .ok [5] := by rfl

example : link (cDeferred.insert "x" (.val 256)) = .error ⟨.range, {}⟩ := by rfl
example : Eff.dbVal {} (some 256) [.label "x"] {} = .error ⟨.range, {}⟩ := by rfl

example : assembleAbs [.dbVal [.label "x"], .define true "x" [.val 5]] = .ok [5] := by rfl
example : assembleAbs [.define true "x" [.val 5], .dbVal [.label "x"]] = .ok [5] := by rfl
example : assembleAbs [.dbVal [.label "x"], .define true "x" [.val 256]] = .error ⟨.range, {}⟩ := by rfl
example : assembleAbs [.define true "x" [.val 256], .dbVal [.label "x"]] = .error ⟨.range, {}⟩ := by rfl
example : assembleAbs [.dbVal [.label "x"]] = .error ⟨.undefined, {}⟩ := by rfl
example : assembleAbs [.assert [.label "x"], .define true "x" [.val 0]] = .error ⟨.assertFail, {}⟩ := by rfl
example : exec {} (.org [.label "x"]) = .error ⟨.needsNow, {}⟩ := by rfl

end Examples

end Az65.Thm.C05
