import Az65.Spec.Z80
import Az65.Thm.IsaCommon
/-
Property C01, Spec side: the Z80 oracle of `Az65/Spec/Z80.lean` is self-consistent.

* `decode_enc`  — decoding the bytes of a well-formed instruction gives back exactly that instruction
                  (with its operand values) and the untouched rest;
* `enc_inj` / `enc_prefix_free` — hence two well-formed instructions never share an encoding;
* `read_write`  — every existing instruction form can be written in source and is read back as itself;
* `enc_bytes`   — every emitted byte is a byte.
-/

namespace Az65.Thm.IsaZ80
open Az65.Spec Az65.Spec.Z80 Az65.Thm.Isa

theorem byte_rt {n : Int} (h : fits8 n = true) : (n.toNat : Int) = n := by
  simp [fits8] at h; omega

theorem byte_rt' {n : Int} (h : fits8 n = true) : max n 0 = n := by
  simp [fits8] at h; omega

theorem byte_lt {n : Int} (h : fits8 n = true) : n.toNat < 256 := by
  simp [fits8] at h; omega

theorem word_hi_lt {nn : Int} (h : fits16 nn = true) : nn.toNat / 256 < 256 := by
  simp [fits16] at h; omega

theorem word_rt {nn : Int} (h : fits16 nn = true) : wordI (nn.toNat % 256) (nn.toNat / 256) = nn := by
  simp [fits16] at h; simp only [wordI]; omega

theorem rel_rt {pc : Nat} {t : Int} (h : fitsRel pc t = true) : relTarget pc (relByte pc t) = t := by
  simp [fitsRel] at h
  by_cases hc : relByte pc t < 128 <;> simp only [relTarget, hc, ↓reduceIte] <;>
    simp only [relByte] at * <;> omega

theorem rel_lt (pc : Nat) (t : Int) : relByte pc t < 256 := by
  simp only [relByte]; omega

variable {pc : Nat} {rest : List Nat} {x y z : Nat}

theorem opc_fields (hy : y < 8) (hz : z < 8) :
    opc x y z / 64 = x ∧ opc x y z / 8 % 8 = y ∧ opc x y z % 8 = z := xyz_fields hy hz

/-- `decode` on an unprefixed opcode given by its fields; the four lemmas after it do the same behind each
prefix. `hp` excludes the prefix bytes: `CB`, `DD`, `ED`, `FD` are `opc 3 1 3`, `opc 3 3 5`, `opc 3 5 5`,
`opc 3 7 5`. -/
theorem decode_opc (hy : y < 8) (hz : z < 8) (hp : ¬(x = 3 ∧ (y = 1 ∧ z = 3 ∨ y % 2 = 1 ∧ y ≠ 1 ∧ z = 5))) :
    decode pc (opc x y z :: rest) =
      match (generalizing := false) x with
      | 0 => decodeX0 pc y z rest
      | 1 => if y = 6 ∧ z = 6 then some (.halt, rest) else some (.ld8 (Loc8.ofIdx y) (Loc8.ofIdx z), rest)
      | 2 => some (.alu (Alu.ofIdx y) (Loc8.ofIdx z), rest)
      | 3 => decodeX3 y z rest
      | _ => none := by
  have h : opc x y z ≠ 0xCB ∧ opc x y z ≠ 0xED ∧ opc x y z ≠ 0xDD ∧ opc x y z ≠ 0xFD := by
    simp only [opc]; omega
  simp only [decode, h, if_false, decodeMain, opc_fields hy hz]
  rfl

theorem decodeIdx_opc (i : Idx) (hy : y < 8) (hz : z < 8) (hp : ¬(x = 3 ∧ y = 1 ∧ z = 3)) :
    decode pc (prefixByte i :: opc x y z :: rest) =
      match (generalizing := false) x with
      | 0 => decodeIdxX0 i y z rest
      | 1 => decodeIdxX1 i y z rest
      | 2 => decodeIdxX2 i y z rest
      | 3 => decodeIdxX3 i y z rest
      | _ => none := by
  have h : opc x y z ≠ 0xCB := by simp only [opc]; omega
  cases i <;> simp only [decode, prefixByte, Nat.reduceEqDiff, if_false, if_true, decodeIdx, h, opc_fields hy hz] <;> rfl

theorem decodeCB_opc (hy : y < 8) (hz : z < 8) :
    decode pc (0xCB :: opc 0 y z :: rest) = some (.rot (Rot.ofIdx y) (Loc8.ofIdx z), rest) ∧
    ∀ op : BitOp, decode pc (0xCB :: opc op.x y z :: rest) = some (.bitop op (y : Int) (Loc8.ofIdx z), rest) := by
  refine ⟨?_, fun op => ?_⟩
  · simp only [decode, if_true, decodeCB, opc_fields hy hz]
  · cases op <;> simp only [decode, if_true, decodeCB, BitOp.x, opc_fields hy hz]

theorem decodeIdxCB_opc (i : Idx) (d : Nat) (hy : y < 8) :
    decode pc (prefixByte i :: 0xCB :: d :: opc 0 y 6 :: rest) = some (.rot (Rot.ofIdx y) (.midx i d), rest) ∧
    ∀ op : BitOp, decode pc (prefixByte i :: 0xCB :: d :: opc op.x y 6 :: rest) =
      some (.bitop op (y : Int) (.midx i d), rest) := by
  have hz : 6 < 8 := by decide
  refine ⟨?_, fun op => ?_⟩
  · cases i <;> simp only [decode, prefixByte, Nat.reduceEqDiff, if_false, if_true, decodeIdx, decodeIdxCB, opc_fields hy hz]
  · cases i <;> cases op <;>
      simp only [decode, prefixByte, Nat.reduceEqDiff, if_false, if_true, decodeIdx, decodeIdxCB, BitOp.x, opc_fields hy hz]

theorem decodeED_opc : decode pc (0xED :: rest) = decodeED rest := rfl

theorem Alu.idx_lt (op : Alu) : op.idx < 8 := by cases op <;> decide
theorem Alu.ofIdx_idx (op : Alu) : Alu.ofIdx op.idx = op := by cases op <;> rfl
theorem Rot.idx_lt (op : Rot) : op.idx < 8 := by cases op <;> decide
theorem Rot.ofIdx_idx (op : Rot) : Rot.ofIdx op.idx = op := by cases op <;> rfl
theorem Cond.idx_lt (cc : Cond) : cc.idx < 8 := by cases cc <;> decide
theorem Cond.ofIdx_idx (cc : Cond) : Cond.ofIdx cc.idx = cc := by cases cc <;> rfl
theorem AccOp.idx_lt (op : AccOp) : op.idx < 8 := by cases op <;> decide
theorem AccOp.ofIdx_idx (op : AccOp) : AccOp.ofIdx op.idx = op := by cases op <;> rfl
theorem R16.p_lt (rp : R16) : rp.p < 4 := by cases rp <;> decide
theorem Q16.p_lt (q : Q16) : q.p < 4 := by cases q <;> decide
theorem BD.p_lt (p : BD) : p.p < 2 := by cases p <;> decide
theorem BitOp.x_lt (op : BitOp) : op.x < 4 := by cases op <;> decide
theorem BlkOp.yz_lt (op : BlkOp) : op.y < 8 ∧ op.z < 8 := by cases op <;> decide

theorem imY_lt (m : Int) : imY m < 8 := by
  unfold imY; split
  · decide
  · split <;> decide

theorem R8.idx_lt (r : R8) : r.idx < 8 := by cases r <;> decide
theorem R8.idx_ne_six (r : R8) : r.idx ≠ 6 := by cases r <;> decide
theorem R8.pfx_of_plain {r : R8} (h : r.plain = true) : r.pfx = none := by cases r <;> first | rfl | cases h
theorem R8.ofIdx_idx {r : R8} (h : r.pfx = none) : R8.ofIdx r.idx = r := by cases r <;> first | rfl | cases h
theorem R8.ofIdxX_idx {r : R8} {i : Idx} (h : r.pfx = some i) :
    R8.ofIdxX i r.idx = r ∧ (r.idx = 4 ∨ r.idx = 5) := by
  cases r <;> cases h <;> decide

/-- under a prefix the registers other than `h`, `l` keep their slots -/
theorem R8.ofIdxX_plain {r : R8} (i : Idx) (h : r.pfx = none) (hl : r.isHL = false) :
    R8.ofIdxX i r.idx = r ∧ r.idx ≠ 4 ∧ r.idx ≠ 5 := by
  cases r <;> cases i <;> revert h hl <;> decide

theorem Loc8.idx_lt (l : Loc8) : l.idx < 8 := by
  cases l with
  | reg r => exact R8.idx_lt r
  | _ => show 6 < 8; decide

section

/- Under these, `simp` computes `decode pc (enc pc i ++ rest)`: `enc` unfolds to `opc x y z` behind its prefix bytes,
and `decode_opc` or one of the three prefixed variants after it rewrites `decode` there to the page decoder at the
fields `y z`, its side conditions being arithmetic on literals and `*.idx_lt`.  `opc_fields` serves only behind
`ED`, where `decodeED_opc` just strips the prefix and `decodeED` divides the opcode itself.  The page decoder
(`decodeX0`, …) then reduces at the literal fields, `*.ofIdx_idx` reads a table operand back,
`take1`/`take2`/`takeRel`/`takeDisp` take the operand bytes, and `byte_rt'`/`word_rt`/`rel_rt`, with the `fits*`
hypothesis handed to `simp`, make them the operand again. -/
attribute [local simp] enc pfxBytes word Loc8.pfx Loc8.idx Loc8.disp Loc8.ofIdx
  decode_opc decodeIdx_opc decodeCB_opc decodeIdxCB_opc decodeED_opc opc_fields
  decodeX0 decodeX3 decodeED decodeEDword decodeIdxX0 decodeIdxX1 decodeIdxX2
  take1 take2 takeRel takeDisp takeDispN byte_rt' word_rt rel_rt
  Alu.idx_lt Alu.ofIdx_idx Rot.idx_lt Rot.ofIdx_idx Cond.idx_lt Cond.ofIdx_idx AccOp.idx_lt AccOp.ofIdx_idx
  R8.idx_lt R8.idx_ne_six

/-- unfold well-formedness in a hypothesis -/
local macro "wfs" "at" h:ident : tactic =>
  `(tactic| simp [wf, documented, valuesOk, Loc8.fits, Loc8.isHalf, R8.isHalf, R8.plain, R8.isHL, R16.plain,
      Cond.short, ld8Ok, R8.compat, R8.pfx] at $h:ident)

theorem fitsIm_cases {m : Int} (h : fitsIm m = true) : m = 0 ∨ m = 1 ∨ m = 2 := by
  simpa [fitsIm, or_assoc] using h

theorem wf_and {i : Instr} (h : wf pc i = true) : documented i = true ∧ valuesOk pc i = true := by
  simpa [wf] using h

/-- `rt_*`: the round trip `decode (enc i ++ rest) = some (i, rest)` for a group of instructions that share one
case analysis; here, on the 8-bit location of a main-page instruction. -/
theorem rt_loc8 {l : Loc8} (h : l.fits = true) :
    decode pc (enc pc (.inc8 l) ++ rest) = some (.inc8 l, rest)
    ∧ decode pc (enc pc (.dec8 l) ++ rest) = some (.dec8 l, rest)
    ∧ (∀ n, fits8 n = true → decode pc (enc pc (.ld8n l n) ++ rest) = some (.ld8n l n, rest))
    ∧ ∀ op, decode pc (enc pc (.alu op l) ++ rest) = some (.alu op l, rest) := by
  rcases l with r | _ | ⟨i, d⟩
  · cases hr : r.pfx with
    | none => simp +contextual [hr, R8.ofIdx_idx hr]
    | some i => simp +contextual [hr, R8.ofIdxX_idx hr]
  · simp +contextual
  · simp +contextual [show fits8 d = true from h]

theorem rt_cb {l : Loc8} (hl : l.isHalf = false) (h : l.fits = true) :
    (∀ op, decode pc (enc pc (.rot op l) ++ rest) = some (.rot op l, rest))
    ∧ ∀ bop b, fits3 b = true → decode pc (enc pc (.bitop bop b l) ++ rest) = some (.bitop bop b l, rest) := by
  have hbit : ∀ b : Int, fits3 b = true → b.toNat < 8 ∧ (b.toNat : Int) = b := by
    intro b hb; simp [fits3] at hb; omega
  rcases l with r | _ | ⟨i, d⟩
  · have hr : r.pfx = none := R8.pfx_of_plain (by simpa [R8.plain, Loc8.isHalf] using hl)
    simp +contextual [hr, R8.ofIdx_idx hr, hbit]
  · simp +contextual [hbit]
  · simp +contextual [hbit, show fits8 d = true from h]

theorem rt_ld8 {d s : Loc8} (h : wf pc (.ld8 d s) = true) :
    decode pc (enc pc (.ld8 d s) ++ rest) = some (.ld8 d s, rest) := by
  obtain ⟨hd, hv⟩ := wf_and h
  have hf : d.fits = true ∧ s.fits = true := by simpa [valuesOk] using hv
  rcases d with x | _ | ⟨i, dd⟩ <;> rcases s with y | _ | ⟨j, ds⟩ <;> simp only [documented, ld8Ok] at hd
  · -- two registers: no prefix, the same prefix, or one prefix and the other register not `h` / `l`
    cases hx : x.pfx <;> cases hy : y.pfx <;> simp only [R8.compat, hx, hy] at hd
    · simp [hx, hy, R8.ofIdx_idx hx, R8.ofIdx_idx hy]
    · rename_i j
      simp [hx, hy, R8.ofIdxX_idx hy, R8.ofIdxX_plain j hx (by simpa using hd)]
    · rename_i i
      simp [hx, hy, R8.ofIdxX_idx hx, R8.ofIdxX_plain i hy (by simpa using hd)]
    · rename_i i j
      obtain rfl : i = j := by simpa using hd
      simp [hx, hy, R8.ofIdxX_idx hx, R8.ofIdxX_idx hy]
  · have hx := R8.pfx_of_plain hd
    simp [hx, R8.ofIdx_idx hx]
  · have hx := R8.pfx_of_plain hd
    simp [hx, R8.ofIdx_idx hx, show fits8 ds = true from hf.2]
  · have hy := R8.pfx_of_plain hd
    simp [hy, R8.ofIdx_idx hy]
  · cases hd
  · cases hd
  · have hy := R8.pfx_of_plain hd
    simp [hy, R8.ofIdx_idx hy, show fits8 dd = true from hf.1]
  · cases hd
  · cases hd

/-- Decoding the bytes of a well-formed instruction (followed by anything) yields exactly that instruction,
operand values included, and the untouched remainder. -/
theorem decode_enc {pc : Nat} {i : Instr} {rest : List Nat} (h : wf pc i = true) :
    decode pc (enc pc i ++ rest) = some (i, rest) := by
  obtain ⟨hd, hv⟩ := wf_and h
  cases i <;> simp only [documented, valuesOk, Bool.and_eq_true] at hd hv
  case djnz t | jr t | ldMemA nn | ldAMem nn | jp nn | call nn | outNA n | inAN n => simp [hv]
  -- the decoder reads these operands back from the tables
  case acc op | retcc cc => simp
  case alun op n | jpcc cc nn | callcc cc nn => simp [hv]
  case inc8 l => exact (rt_loc8 hv).1
  case dec8 l => exact (rt_loc8 hv).2.1
  case ld8n l n => exact (rt_loc8 hv.1).2.2.1 n hv.2
  case alu op l => exact (rt_loc8 hv).2.2.2 op
  case ld8 d s => exact rt_ld8 h
  case rot op l => exact (rt_cb (by simpa using hd) hv).1 op
  case bitop op b l => exact (rt_cb (by simpa using hd) hv.2).2 op b hv.1
  case inC r | outC r => have hr := R8.pfx_of_plain hd; simp [R8.ofIdx_idx hr]
  -- here the decoder branches on the operand: so do we
  case jrcc cc t => cases cc <;> simp [Cond.short] at hd <;> simp [Cond.idx, Cond.ofIdx, hv]
  case ld16 rp nn | ldMemRR nn rp | ldRRMem rp nn =>
    cases rp <;> simp [R16.p, R16.pfx, R16.ofIdx, R16.ofIdxReg, hv]
  case inc16 rp | dec16 rp => cases rp <;> rfl
  case add16 d s =>
    simp only [Bool.or_eq_true, beq_iff_eq] at hd
    rcases hd with ⟨(rfl | rfl) | rfl, ((rfl | rfl) | rfl) | rfl⟩ <;> rfl
  case sbc16 rp | adc16 rp => cases rp <;> first | rfl | cases hd
  case ldIndA p | ldAInd p => cases p <;> rfl
  case pop q | push q => cases q <;> rfl
  case jpInd r | ldSP r | exSP r => cases r <;> rfl
  case rst t =>
    have ht : t.toNat / 8 < 8 ∧ ((8 * (t.toNat / 8) : Nat) : Int) = t := by simp [fitsRst] at hv; omega
    simp [ht]
  case im m => rcases fitsIm_cases hv with rfl | rfl | rfl <;> rfl
  case blk op => cases op <;> rfl
  all_goals rfl  -- the seventeen forms without an operand

end

/-- No encoding is a proper prefix of another: a byte stream splits into instructions in one way only. -/
theorem enc_prefix_free {pc : Nat} {i j : Instr} {r s : List Nat} (hi : wf pc i = true)
    (hj : wf pc j = true) (h : enc pc i ++ r = enc pc j ++ s) : i = j ∧ r = s := by
  have := (decode_enc (rest := r) hi).symm.trans (h ▸ decode_enc (rest := s) hj)
  simpa using this

/-- No byte sequence is the encoding of two well-formed instructions: the second half of C01's "assemble to
their Zilog encoding, and only to it". -/
theorem enc_inj {pc : Nat} {i j : Instr} (hi : wf pc i = true) (hj : wf pc j = true)
    (h : enc pc i = enc pc j) : i = j :=
  (enc_prefix_free (r := []) (s := []) hi hj (by rw [h])).1

theorem bytes_pfx (p : Option Idx) : Bytes (pfxBytes p) := by
  rcases p with _ | i
  · simp [pfxBytes]
  · cases i <;> simp [pfxBytes, prefixByte]

theorem bytes_disp {l : Loc8} (h : l.fits = true) : Bytes l.disp := by
  cases l with
  | midx i d => simpa [Loc8.disp] using byte_lt (show fits8 d = true from h)
  | _ => simp [Loc8.disp]

theorem bytes_word {nn : Int} (h : fits16 nn = true) : Bytes (word nn) := by
  have := word_hi_lt h
  simp [word]; omega

theorem bytes_enc {pc : Nat} {i : Instr} (hv : valuesOk pc i = true) : Bytes (enc pc i) := by
  cases i <;> simp only [valuesOk, Bool.and_eq_true] at hv <;>
    simp only [enc, bytes_append, bytes_cons, bytes_nil, bytes_pfx, bytes_word, bytes_disp, byte_lt, rel_lt, hv,
      opc, and_true, true_and]
  case jrcc cc t | retcc cc | jpcc cc nn | callcc cc nn => have := Cond.idx_lt cc; omega
  case ld16 rp nn | inc16 rp | dec16 rp | sbc16 rp | adc16 rp => have := R16.p_lt rp; omega
  case add16 d s => have := R16.p_lt s; omega
  case ldIndA p | ldAInd p => have := BD.p_lt p; omega
  case inc8 l | dec8 l | ld8n l n => have := Loc8.idx_lt l; omega
  case acc op => have := AccOp.idx_lt op; omega
  case ld8 d s => have := Loc8.idx_lt d; have := Loc8.idx_lt s; omega
  case alu op l => have := Alu.idx_lt op; have := Loc8.idx_lt l; omega
  case alun op n => have := Alu.idx_lt op; omega
  case pop q | push q => have := Q16.p_lt q; omega
  case rot op l => have := Rot.idx_lt op; have := Loc8.idx_lt l; omega
  case inC r | outC r => have := R8.idx_lt r; omega
  case im m => have := imY_lt m; omega
  case blk op => have := BlkOp.yz_lt op; omega
  case ldMemRR nn rp | ldRRMem rp nn =>
    have := R16.p_lt rp
    split <;> simp only [bytes_append, bytes_cons, bytes_nil, bytes_pfx, bytes_word, hv, and_true, true_and] <;>
      omega
  case rst t => simp [fitsRst] at hv; omega
  case bitop op b l => have := BitOp.x_lt op; have := Loc8.idx_lt l; simp [fits3] at hv; omega
  all_goals omega

theorem enc_bytes {pc : Nat} {i : Instr} (h : wf pc i = true) : ∀ b ∈ enc pc i, b < 256 :=
  bytes_enc (wf_and h).2

theorem Idx.ofName_name (i : Idx) : Idx.ofName i.name = some i := by cases i <;> rfl
theorem R8.ofName_name (r : R8) : R8.ofName r.name = some r := by cases r <;> rfl
theorem R16.ofName_name (r : R16) : R16.ofName r.name = some r := by cases r <;> rfl
theorem Q16.ofName_name (r : Q16) : Q16.ofName r.name = some r := by cases r <;> rfl
theorem HX.ofName_name (r : HX) : HX.ofName r.name = some r := by cases r <;> rfl

theorem Loc8.ofOpnd_toOpnd (l : Loc8) : Loc8.ofOpnd l.toOpnd = some l := by
  cases l <;> simp [Loc8.toOpnd, Loc8.ofOpnd, R8.ofName_name, Idx.ofName_name]

theorem Cond.ofOpnd_toOpnd (cc : Cond) : Cond.ofOpnd cc.toOpnd = some cc := by cases cc <;> rfl

/-- no 8-bit register is spelt like `i`, `r` or `sp`, the other register tokens `ld` knows -/
theorem R8.name_ne (r : R8) : r.name ≠ "i" ∧ r.name ≠ "r" ∧ r.name ≠ "sp" := by cases r <;> decide

theorem R16.name_ne_a (r : R16) : r.name ≠ "a" := by cases r <;> decide

theorem R8.ofName_R16 (r : R16) : R8.ofName r.name = none := by cases r <;> rfl

theorem readLd_loc (d s : Loc8) : readLd [d.toOpnd, s.toOpnd] = some (.ld8 d s) := by
  rcases d with x | _ | ⟨i, dd⟩ <;> rcases s with y | _ | ⟨j, ds⟩ <;>
    simp [readLd, readLdRegReg, Loc8.toOpnd, Loc8.ofOpnd, R8.name_ne, R8.ofName_name, Idx.ofName_name]

theorem readAluSrc_loc (op : Alu) (l : Loc8) : readAluSrc op l.toOpnd = some (.alu op l) := by
  cases l <;> simp [readAluSrc, Loc8.toOpnd, Loc8.ofOpnd, R8.ofName_name, Idx.ofName_name]

theorem readIncDec_loc (f8 : Loc8 → Instr) (f16 : R16 → Instr) (l : Loc8) :
    readIncDec f8 f16 [l.toOpnd] = some (f8 l) := by
  simp only [readIncDec, Loc8.ofOpnd_toOpnd]

theorem readIncDec_r16 (f8 : Loc8 → Instr) (f16 : R16 → Instr) (r : R16) :
    readIncDec f8 f16 [.reg r.name] = some (f16 r) := by
  simp [readIncDec, Loc8.ofOpnd, R8.ofName_R16, R16.ofName_name]

theorem readLd_loc_imm (l : Loc8) (n : Int) : readLd [l.toOpnd, .imm n] = some (.ld8n l n) := by
  cases l <;> simp [readLd, Loc8.toOpnd, R8.ofName_name, Idx.ofName_name]

theorem readLd_r16 (rp : R16) (nn : Int) :
    readLd [.reg rp.name, .imm nn] = some (.ld16 rp nn)
    ∧ readLd [.mem nn, .reg rp.name] = some (.ldMemRR nn rp)
    ∧ readLd [.reg rp.name, .mem nn] = some (.ldRRMem rp nn) := by
  simp [readLd, R8.ofName_R16, R16.ofName_name, R16.name_ne_a]

theorem readRaw_write (i : Instr) : readRaw (write i).1 (write i).2 = some i := by
  cases i with
  | nop | exAF | halt | ret | exx | exDEHL | di | ei | neg | retn | reti | ldIA | ldRA | ldAI | ldAR
  | rrd | rld => rfl
  | djnz t | jr t | ldMemA nn | ldAMem nn | jp nn | call nn | outNA n | inAN n | rst t | im m => rfl
  | acc op | blk op | alun op n => cases op <;> rfl
  | ldIndA p | ldAInd p => cases p <;> rfl
  | ld8 d s => exact readLd_loc d s
  | ld8n l n => exact readLd_loc_imm l n
  | ld16 rp nn => exact (readLd_r16 rp nn).1
  | ldMemRR nn rp => exact (readLd_r16 rp nn).2.1
  | ldRRMem rp nn => exact (readLd_r16 rp nn).2.2
  | inc8 l | dec8 l => exact readIncDec_loc _ _ l
  | inc16 rp | dec16 rp => exact readIncDec_r16 _ _ rp
  | alu op l =>
    refine Eq.trans ?_ (readAluSrc_loc op l)
    cases op <;> rfl
  | add16 d s => show readAluA .add _ [.reg d.name, .reg s.name] = _; simp [readAluA, R16.name_ne_a, R16.ofName_name]
  -- evaluating the reader leaves the look-up of one operand in its table
  | rot op l | bitop op b l => cases op <;> (conv => lhs; whnf) <;> simp only [Loc8.ofOpnd_toOpnd]
  | jrcc cc t | retcc cc | jpcc cc nn | callcc cc nn | pop q | push q | jpInd r | ldSP r | exSP r | inC r | outC r
  | adc16 rp | sbc16 rp =>
    conv => lhs; whnf
    simp only [write, Cond.ofOpnd_toOpnd, Q16.ofName_name, HX.ofName_name, R8.ofName_name, R16.ofName_name,
      Option.map_some, if_true]

/-- Every existing instruction form is writable: its canonical spelling reads back as itself. -/
theorem read_write {i : Instr} (h : documented i = true) : Z80.read (write i).1 (write i).2 = some i := by
  simp only [Z80.read, readRaw_write, Option.filter, h, ↓reduceIte]

theorem read_documented {m : String} {ops : List Opnd} {i : Instr} (h : Z80.read m ops = some i) :
    documented i = true := by
  simp only [Z80.read, Option.filter_eq_some_iff] at h
  exact h.2

theorem expected_write {pc : Nat} {i : Instr} (h : wf pc i = true) :
    expected pc (write i).1 (write i).2 = some (enc pc i) := by
  simp only [expected, read_write (wf_and h).1, Option.bind_some, h, ↓reduceIte]

/-- Whatever `expected` prescribes decodes back to the instruction that was read. -/
theorem expected_decodes {pc : Nat} {m : String} {ops : List Opnd} {bytes rest : List Nat}
    (h : expected pc m ops = some bytes) :
    ∃ i, Z80.read m ops = some i ∧ wf pc i = true ∧ decode pc (bytes ++ rest) = some (i, rest) := by
  obtain ⟨i, hr, hw, rfl⟩ := bind_guard_eq_some.1 h
  exact ⟨i, hr, hw, decode_enc hw⟩

/-- One evaluation of the table for the three facts below. -/
private theorem allShapes_table :
    (∀ i ∈ allShapes, wf 0 i = true) ∧ allShapes.length = 798 ∧ allCandidates.length = 1023 := by
  decide +kernel

theorem allShapes_wf : ∀ i ∈ allShapes, wf 0 i = true := allShapes_table.1

theorem allShapes_length : allShapes.length = 798 := allShapes_table.2.1

theorem allCandidates_length : allCandidates.length = 1023 := allShapes_table.2.2

example : enc 0 (.ld8n (.reg .b) 0x42) = [0x06, 0x42] := by decide +kernel
example : enc 0 (.bitop .bit 7 (.midx .iy 5)) = [0xFD, 0xCB, 0x05, 0x7E] := by decide +kernel
example : decode 0 [0xFD, 0xCB, 0x05, 0x7E, 0x00] = some (.bitop .bit 7 (.midx .iy 5), [0x00]) := by decide +kernel
example : expected 0x100 "jr" [.imm 0x100] = some [0x18, 0xFE] := by decide +kernel
example : expected 0 "jr" [.imm 129] = some [0x18, 0x7F] := by decide +kernel
example : expected 0 "jr" [.imm 130] = none := by decide +kernel
example : expected 0 "jr" [.imm (-126)] = some [0x18, 0x80] := by decide +kernel
example : expected 0 "jr" [.imm (-127)] = none := by decide +kernel
example : expected 0 "jr" [.flag "po", .imm 5] = none := by decide +kernel
example : expected 0 "ld" [.reg "a", .imm 255] = some [0x3E, 0xFF] := by decide +kernel
example : expected 0 "ld" [.reg "a", .imm 256] = none := by decide +kernel
example : expected 0 "ld" [.reg "a", .imm (-1)] = none := by decide +kernel
example : expected 0 "ld" [.reg "bc", .imm 65536] = none := by decide +kernel
example : expected 0 "ld" [.reg "ix", .imm 0x1234] = some [0xDD, 0x21, 0x34, 0x12] := by decide +kernel
example : expected 0 "ld" [.mem 0x1234, .reg "sp"] = some [0xED, 0x73, 0x34, 0x12] := by decide +kernel
example : expected 0 "ld" [.mem 0x1234, .reg "hl"] = some [0x22, 0x34, 0x12] := by decide +kernel
example : expected 0 "ld" [.idx "ix" 255, .reg "a"] = some [0xDD, 0x77, 0xFF] := by decide +kernel
example : expected 0 "ld" [.idx "ix" 256, .reg "a"] = none := by decide +kernel
example : expected 0 "ld" [.idx "ix" 1, .reg "h"] = some [0xDD, 0x74, 0x01] := by decide +kernel
example : expected 0 "ld" [.idx "ix" 1, .reg "ixh"] = none := by decide +kernel
example : expected 0 "ld" [.reg "ixh", .reg "h"] = none := by decide +kernel
example : expected 0 "ld" [.reg "ixh", .reg "iyl"] = none := by decide +kernel
example : expected 0 "ld" [.reg "iyh", .reg "iyl"] = some [0xFD, 0x65] := by decide +kernel
example : expected 0 "ld" [.ind "hl", .ind "hl"] = none := by decide +kernel
example : expected 0 "halt" [] = some [0x76] := by decide +kernel
example : expected 0 "bit" [.imm 7, .idx "iy" 5] = some [0xFD, 0xCB, 0x05, 0x7E] := by decide +kernel
example : expected 0 "bit" [.imm 8, .reg "a"] = none := by decide +kernel
example : expected 0 "sll" [.reg "a"] = some [0xCB, 0x37] := by decide +kernel
example : expected 0 "rlc" [.reg "ixh"] = none := by decide +kernel
example : expected 0 "rst" [.imm 0x38] = some [0xFF] := by decide +kernel
example : expected 0 "rst" [.imm 1] = none := by decide +kernel
example : expected 0 "im" [.imm 2] = some [0xED, 0x5E] := by decide +kernel
example : expected 0 "im" [.imm 3] = none := by decide +kernel
example : expected 0 "adc" [.reg "a", .mem 5] = some [0xCE, 0x05] := by decide +kernel
example : expected 0 "adc" [.reg "a", .imm 5] = some [0xCE, 0x05] := by decide +kernel
example : expected 0 "cp" [.mem 5] = some [0xFE, 0x05] := by decide +kernel
example : expected 0 "and" [.mem 5] = none := by decide +kernel
example : expected 0 "sub" [.reg "a", .reg "b"] = none := by decide +kernel
example : expected 0 "sub" [.reg "b"] = some [0x90] := by decide +kernel
example : expected 0 "jp" [.reg "c", .imm 5] = some [0xDA, 0x05, 0x00] := by decide +kernel
example : expected 0 "jp" [.ind "ix"] = some [0xDD, 0xE9] := by decide +kernel
example : expected 0 "ret" [.reg "c"] = some [0xD8] := by decide +kernel
example : expected 0 "out" [.ind "c", .reg "a"] = some [0xED, 0x79] := by decide +kernel
example : expected 0 "in" [.reg "a", .mem 0x42] = some [0xDB, 0x42] := by decide +kernel
example : expected 0 "ex" [.reg "af", .reg "af'"] = some [0x08] := by decide +kernel
example : expected 0 "add" [.reg "ix", .reg "ix"] = some [0xDD, 0x29] := by decide +kernel
example : expected 0 "add" [.reg "ix", .reg "hl"] = none := by decide +kernel
example : expected 0 "ld" [.reg "a", .reg "i"] = some [0xED, 0x57] := by decide +kernel
example : expected 0 "ld" [.reg "sp", .reg "iy"] = some [0xFD, 0xF9] := by decide +kernel
example : expected 0 "otdr" [] = some [0xED, 0xBB] := by decide +kernel
example : expected 0 "LD" [.reg "a", .imm 1] = none := by decide +kernel

end Az65.Thm.IsaZ80
