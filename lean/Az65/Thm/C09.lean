import Az65.Model.Asm
/-
C09 — a local label `.name` is exactly shorthand for `Global.name`.

The model has ONE qualification function, `Az65.qualify`, used at every position where a label may
appear: `qualifyOrFail` (Model/Asm.lean) for the directives and label definitions, and directly in
`parsePrec` (Model/ExprParse.lean) for label operands and `@sizeof`.  So the property reduces to
facts about `qualify`.  That the ten copies of the rule in `src/assembler/mod.rs` agree with it is
not a theorem: they are compared with the Model, and the local with the qualified spelling, on
programs.
-/
namespace Az65.Thm.C09
open Az65

/-- Under the scope `g`, the local spelling `.name` (`LabelKind.loc`, text `s`) denotes exactly the
key that the fully-qualified (direct) spelling `g ++ s` denotes. -/
theorem qualify_local_eq_direct (g s : String) :
    qualify (some g) .loc s = qualify (some g) .direct (g ++ s) := rfl

theorem qualify_local (g s : String) : qualify (some g) .loc s = some (g ++ s) := rfl

/-- The qualified spelling may be read under any scope `ns`: a direct spelling ignores it. -/
theorem qualify_local_eq_direct_any (g s : String) (ns : Option String) :
    qualify (some g) .loc s = qualify ns .direct (g ++ s) := rfl

theorem qualify_global (ns : Option String) (s : String) : qualify ns .global s = some s := rfl

theorem qualify_direct (ns : Option String) (s : String) : qualify ns .direct s = some s := rfl

/-- C09's last clause, a local name before any global label: the `none` becomes the `.noScope`
error in `qualifyOrFail` (`qualifyOrFail_no_scope`) and in `parsePrec`. -/
theorem no_scope_rejected (s : String) : qualify none .loc s = none := rfl

theorem qualify_none_iff (ns : Option String) (k : LabelKind) (s : String) :
    qualify ns k s = none ↔ (k = .loc ∧ ns = none) := by
  cases k <;> cases ns <;> simp [qualify]

/-- The same local name under two different global labels denotes two different keys, i.e. two
independent symbols. -/
theorem scopes_independent {g1 g2 s : String} (h : g1 ≠ g2) :
    qualify (some g1) .loc s ≠ qualify (some g2) .loc s := by
  intro e
  simp only [qualify, Option.map_some, Option.some.injEq] at e
  exact h ((String.append_left_inj s).1 e)

theorem locals_independent {g s1 s2 : String} (h : s1 ≠ s2) :
    qualify (some g) .loc s1 ≠ qualify (some g) .loc s2 := by
  intro e
  simp only [qualify, Option.map_some, Option.some.injEq] at e
  exact h ((String.append_right_inj g).1 e)

/-- Any function of the qualified key (table lookup, definition, `@sizeof`, `@isdef`, …) gets the
same argument from the local and from the qualified spelling — a congruence, which is all there is
left to say once every position goes through `qualify`. -/
theorem local_spelling_congr {α} (f : Option String → α) (g s : String) (ns : Option String) :
    f (qualify (some g) .loc s) = f (qualify ns .direct (g ++ s)) := rfl

theorem qualifyOrFail_eq (kind : LabelKind) (value : String) (loc : Loc) (st : Asm) :
    (qualifyOrFail kind value loc).run st =
      match qualify st.core.ns kind value with
      | some d => .ok (d, st)
      | none => .error ⟨.noScope, loc⟩ := by
  show (match qualify st.core.ns kind value with
    | some d => (pure d : AM String)
    | none => fail .noScope loc) st = _
  cases qualify st.core.ns kind value <;> rfl

theorem qualifyOrFail_local_eq_direct (g s : String) (loc : Loc) (st : Asm)
    (hns : st.core.ns = some g) :
    (qualifyOrFail .loc s loc).run st = (qualifyOrFail .direct (g ++ s) loc).run st := by
  rw [qualifyOrFail_eq, qualifyOrFail_eq, hns]; rfl

theorem qualifyOrFail_no_scope (s : String) (loc : Loc) (st : Asm) (hns : st.core.ns = none) :
    (qualifyOrFail .loc s loc).run st = .error ⟨.noScope, loc⟩ := by
  rw [qualifyOrFail_eq, hns]; rfl

example : qualify (some "Main") .loc ".loop" = some ("Main" ++ ".loop") := rfl
example : qualify (some "A") .loc ".x" ≠ qualify (some "B") .loc ".x" :=
  scopes_independent (by decide)
example : qualify none .loc ".x" = none := rfl

end Az65.Thm.C09
