import Az65.Thm.IsaZ80
import Az65.Thm.C01Forms.P0
import Az65.Thm.C01Forms.P1
import Az65.Thm.C01Forms.P2
import Az65.Thm.C01Forms.P3
import Az65.Thm.C01Forms.P4
import Az65.Thm.C01Forms.P5
import Az65.Thm.C01Forms.P6
import Az65.Thm.C01Forms.P7
import Az65.Thm.C01Forms.P8
import Az65.Thm.C01Forms.P9
import Az65.Thm.C01Forms.P10
import Az65.Thm.C01Forms.P11
import Az65.Thm.C01Forms.P12
import Az65.Thm.C01Forms.P13
import Az65.Thm.C01Forms.P14
import Az65.Thm.C01Forms.P15
/-
C01 — Z80 instructions assemble to their Zilog encoding, and only to it.

ISA-level theorems (all operand values: `decode_enc`, `enc_inj`, `enc_prefix_free`, `read_write`,
`expected_decodes`, …) are in `Az65/Thm/IsaZ80.lean`.  This file ties the decision tree
*regenerated from src/z80/mod.rs on every run* to the Spec.
-/
namespace Az65.Thm.C01
open Az65 Az65.Spec

theorem slices_cover : Z80.allCandidates =
    slice 0 ++ slice 1 ++ slice 2 ++ slice 3 ++ slice 4 ++ slice 5 ++ slice 6 ++ slice 7 ++
    slice 8 ++ slice 9 ++ slice 10 ++ slice 11 ++ slice 12 ++ slice 13 ++ slice 14 ++ slice 15 := by
  -- consecutive `take 64 ∘ drop (64 * k)` glue by `List.take_add` into one `take 1024`, which is the whole
  -- list by its length
  simp only [slice, Nat.reduceMul, List.drop_zero, ← List.take_add, Nat.reduceAdd]
  exact (List.take_of_length_le (by rw [IsaZ80.allCandidates_length]; decide)).symm

theorem formsAgreeOn_append (a b : List Z80.Instr) :
    formsAgreeOn (a ++ b) = (formsAgreeOn a && formsAgreeOn b) := by
  simp [formsAgreeOn, List.all_append]

/-- **C01 (generated tree = Spec on every form).**  For each of the 1023 candidate instruction
forms (the 798 documented ones and 225 junk register combinations the datatype can express), written
in its canonical spelling, with each value operand also replaced by every edge value
(`$42 $FF $100 $FFFF $10000 -1`), both known now and defined later: the decision tree regenerated
from the current source, run by the model interpreter and linker, yields exactly
`Spec.Z80.expected` — the Zilog encoding when the form is documented and every value fits its field,
a rejection otherwise (and a rejection when `bit/res/set/rst/im` get a not-yet-defined selector). -/
theorem tree_agrees_spec_on_forms : formsAgreeOn Z80.allCandidates = true := by
  rw [slices_cover]
  simp only [formsAgreeOn_append, forms_slice_0, forms_slice_1, forms_slice_2, forms_slice_3,
    forms_slice_4, forms_slice_5, forms_slice_6, forms_slice_7, forms_slice_8, forms_slice_9,
    forms_slice_10, forms_slice_11, forms_slice_12, forms_slice_13, forms_slice_14, forms_slice_15,
    Bool.and_self]

/-- The table, one form at a time: known now, the tree yields what the Spec expects; defined later
(where the form has a value operand), the same, or a rejection for the mnemonics that need their
selector now. -/
theorem form_agrees (i : Z80.Instr) (hi : i ∈ Z80.allCandidates) (ops : List Opnd)
    (ho : ops ∈ variants (Z80.write i).2) :
    asmOpnds .z80 0x4000 (Z80.write i).1 ops true = Z80.expected 0x4000 (Z80.write i).1 ops ∧
    (hasValue ops = true → asmOpnds .z80 0x4000 (Z80.write i).1 ops false =
      if needsNow (Z80.write i).1 then none else Z80.expected 0x4000 (Z80.write i).1 ops) := by
  have h := tree_agrees_spec_on_forms
  simp only [formsAgreeOn, instrOk, knownDefect, formOk, Bool.false_or, List.all_eq_true, Bool.and_eq_true,
    beq_iff_eq, Bool.or_eq_true, Bool.not_eq_true'] at h
  obtain ⟨h1, h2⟩ := h i hi ops ho
  exact ⟨h1, fun hv => h2.resolve_left (by rw [hv]; exact Bool.noConfusion)⟩

theorem tree_agrees_spec (i : Z80.Instr) (hi : i ∈ Z80.allCandidates) (ops : List Opnd)
    (ho : ops ∈ variants (Z80.write i).2) :
    asmOpnds .z80 0x4000 (Z80.write i).1 ops true = Z80.expected 0x4000 (Z80.write i).1 ops :=
  (form_agrees i hi ops ho).1

/-- Every member of `allShapes` (the documented ones among the candidate forms, 798 by `allShapes_length`)
is accepted by the generated tree with its standard encoding, at its own operand values, known now, at
address 0: C01's clause that every documented instruction can be written in source and yields its
standard encoding. -/
theorem all_documented_forms_writable :
    (Z80.allShapes.all fun i =>
      asmOpnds .z80 0 (Z80.write i).1 (Z80.write i).2 true == some (Z80.enc 0 i)) = true := by
  decide +kernel

export Az65.Thm.IsaZ80 (decode_enc enc_inj enc_prefix_free enc_bytes read_write expected_decodes
  expected_write allShapes_length)

example : asmOpnds .z80 0 "bit" [.imm 7, .idx "iy" 5] true = some [0xFD, 0xCB, 0x05, 0x7E] := by decide +kernel
example : asmOpnds .z80 0 "adc" [.reg "a", .mem 5] true = some [0xCE, 0x05] := by decide +kernel
example : asmOpnds .z80 0 "ld" [.reg "a", .imm 256] true = none := by decide +kernel
example : asmOpnds .z80 0x100 "jr" [.imm 0x100] false = some [0x18, 0xFE] := by decide +kernel

end Az65.Thm.C01
