import Az65.Spec.Mos6502
import Az65.Thm.IsaCommon
/-
Property C03, Spec side, about `Az65/Spec/Mos6502.lean`: `decode` is a left inverse of `enc` on well-formed
legal instructions (`decode_enc`: the opcode is found again in `legal`, whose opcodes are pairwise
distinct), every one of the 151 legal opcodes is reachable from source, a source line only ever reads
as a legal instruction, and the rules by which a direct operand selects a zero-page, an absolute or the
relative mode.
-/
namespace Az65.Thm.IsaMos6502
open Az65.Spec Az65.Spec.Mos6502 Az65.Thm.Isa

theorem mn_mem_all (mn : Mn) : mn ∈ Mn.all := by cases mn <;> decide

theorem amode_mem_all (md : AMode) : md ∈ AMode.all := by cases md <;> decide

theorem mn_count : Mn.all.length = 56 := by decide

theorem amode_count : AMode.all.length = 13 := by decide

theorem mem_legal_iff (mn : Mn) (md : AMode) (op : Nat) :
    (mn, md, op) ∈ legal ↔ opcode mn md = some op := by
  simp only [legal, List.mem_flatMap, List.mem_filterMap, Option.map_eq_some_iff, Prod.mk.injEq]
  exact ⟨fun ⟨_, _, _, _, _, h, rfl, rfl, rfl⟩ => h,
    fun h => ⟨mn, mn_mem_all mn, md, amode_mem_all md, op, h, rfl, rfl, rfl⟩⟩

theorem find?_of_nodup_map {α β : Type} [DecidableEq β] {f : α → β} :
    ∀ {l : List α}, (l.map f).Nodup → ∀ {a : α}, a ∈ l → l.find? (fun x => f x == f a) = some a
  | x :: l, h, a, ha => by
    rw [List.map_cons, List.nodup_cons] at h
    rcases List.mem_cons.1 ha with rfl | ha
    · simp
    · have hx : f x ≠ f a := fun e => h.1 (e ▸ List.mem_map_of_mem ha)
      simp [hx, find?_of_nodup_map h.2 ha]

theorem lookup_opcode {mn : Mn} {md : AMode} {op : Nat} (h : opcode mn md = some op) :
    lookup op = some (mn, md) := by
  rw [lookup, find?_of_nodup_map (f := (·.2.2)) legal_opcodes_nodup ((mem_legal_iff mn md op).2 h)]
  rfl

/-- Decoding the encoding of a well-formed legal instruction gives the instruction back and
consumes exactly its bytes. -/
theorem decode_enc (pc : Nat) (i : Instr) (rest : List Nat)
    (hwf : wf pc i = true) (hlegal : opcode i.mn i.mode ≠ none) :
    decode pc (enc pc i ++ rest) = some (i, rest) := by
  obtain ⟨mn, mode, v⟩ := i
  obtain ⟨op, hop⟩ := Option.ne_none_iff_exists'.1 hlegal
  simp only [enc, hop, List.cons_append, decode, lookup_opcode hop]
  simp only [wf] at hwf
  -- `wf`, `operandBytes` and `decode` all go by the operand's size
  cases hs : opSize mode <;> simp [hs, operandBytes] at hwf ⊢ <;> omega

/-- one evaluation of the whole table: every spelling is converted once, not once per mnemonic -/
private theorem parse_names : ∀ mn ∈ Mn.all, Mn.parse mn.name = some mn := by decide +kernel

theorem parse_name (mn : Mn) : Mn.parse mn.name = some mn := parse_names mn (mn_mem_all mn)

def sampleValue : AMode → Int
  | .implied | .accumulator => 0
  | .immediate | .zeroPage | .zeroPageX | .zeroPageY | .indirectX | .indirectY => 0x42
  | .absolute | .absoluteX | .absoluteY | .indirect | .relative => 0x1234

/-- One evaluation of the table for the two theorems below. `$1200` is within branch range of the sample
target `$1234`. -/
private theorem reach_rows :
    ∀ row ∈ legal,
      let i : Instr := ⟨row.1, row.2.1, sampleValue row.2.1⟩
      expectedMode row.1 (write i).2 true = some row.2.1 ∧ modeValue (write i).2 = i.v ∧
        wf 0x1200 i = true := by
  decide +kernel

/-- Every legal (mnemonic, mode) pair is what some source line reads as; `all_opcodes_reachable`: every
one of the 151 opcodes is the first of the bytes expected for some source line. -/
theorem all_legal_reachable :
    ∀ row ∈ legal, ∃ m md known,
      (read m md known).map (fun i => (i.mn, i.mode)) = some (row.1, row.2.1) := by
  intro row hrow
  refine ⟨row.1.name, (write ⟨row.1, row.2.1, sampleValue row.2.1⟩).2, true, ?_⟩
  simp [Mos6502.read, parse_name, (reach_rows row hrow).1]

theorem all_opcodes_reachable :
    ∀ row ∈ legal, ∃ pc m md known bs, expected pc m md known = some (row.2.2 :: bs) := by
  intro row hrow
  obtain ⟨hr, hv, hw⟩ := reach_rows row hrow
  obtain ⟨mn, mode, op⟩ := row
  refine ⟨0x1200, mn.name, (write ⟨mn, mode, sampleValue mode⟩).2, true,
    operandBytes 0x1200 mode (sampleValue mode), ?_⟩
  simp [expected, Mos6502.read, parse_name, hr, hv, hw, enc, (mem_legal_iff mn mode op).1 hrow]

theorem expectedMode_some {mn : Mn} {md : Mode} {known : Bool} {mode : AMode}
    (h : expectedMode mn md known = some mode) :
    candidate mn (normalize mn md) known = mode ∧ opcode mn mode ≠ none := by
  obtain ⟨hs, ⟨⟩⟩ := Option.ite_none_right_eq_some.1 h
  exact ⟨rfl, Option.isSome_iff_ne_none.1 hs⟩

theorem read_some {m : String} {md : Mode} {known : Bool} {i : Instr} (h : Mos6502.read m md known = some i) :
    Mn.parse m = some i.mn ∧ expectedMode i.mn md known = some i.mode ∧ i.v = modeValue md := by
  simp only [Mos6502.read, Option.bind_eq_some_iff, Option.map_eq_some_iff] at h
  obtain ⟨mn, hp, mode, he, rfl⟩ := h
  exact ⟨hp, he, rfl⟩

/-- Whatever a source line reads as is a legal 6502 instruction. -/
theorem only_legal {m : String} {md : Mode} {known : Bool} {i : Instr}
    (h : Mos6502.read m md known = some i) : opcode i.mn i.mode ≠ none :=
  (expectedMode_some (read_some h).2.1).2

/-- The expected bytes are the opcode of the selected (mnemonic, mode) followed by the operand,
low byte first, and the operand is in range. -/
theorem expected_shape {pc : Nat} {m : String} {md : Mode} {known : Bool} {bs : List Nat}
    (h : expected pc m md known = some bs) :
    ∃ i op, read m md known = some i ∧ wf pc i = true ∧ opcode i.mn i.mode = some op ∧
      bs = op :: operandBytes pc i.mode i.v := by
  obtain ⟨i, hr, hw, rfl⟩ := bind_guard_eq_some.1 h
  obtain ⟨op, hop⟩ := Option.ne_none_iff_exists'.1 (only_legal hr)
  exact ⟨i, op, hr, hw, hop, by simp only [enc, hop]⟩

def isZeroPage : AMode → Bool
  | .zeroPage | .zeroPageX | .zeroPageY => true
  | _ => false

def isAbsolute : AMode → Bool
  | .absolute | .absoluteX | .absoluteY => true
  | _ => false

/-- The value of a direct spelling `E`, `E, x`, `E, y`. -/
def directValue : Mode → Option Int
  | .direct v | .directX v | .directY v => some v
  | _ => none

variable {m : String} {mn : Mn} {md : Mode} {known : Bool} {i : Instr} {v : Int}

theorem branch_opcode (hb : isBranch mn = true) :
    ∃ op, ∀ mode, opcode mn mode = if mode = .relative then some op else none := by
  unfold isBranch at hb
  unfold opcode
  split at hb
  · rename_i hc
    exact ⟨_, fun mode => by rw [hc]⟩
  · cases hb

private theorem hasZeroPage_not_branch (h : hasZeroPage mn = true) : isBranch mn = false :=
  Bool.eq_false_iff.2 fun hb => by
    obtain ⟨op, ho⟩ := branch_opcode hb
    simp [hasZeroPage, ho] at h

private theorem normalize_direct (hd : directValue md = some v) : normalize mn md = md := by
  unfold normalize
  split
  · rfl
  · cases md <;> simp_all [directValue]

private theorem candidate_direct (hd : directValue md = some v) (hb : isBranch mn = false) :
    isZeroPage (candidate mn md known) = (hasZeroPage mn && short known v) ∧
      isAbsolute (candidate mn md known) = !(hasZeroPage mn && short known v) := by
  cases md <;> cases hd <;> simp only [candidate, hb, Bool.false_eq_true, if_false] <;>
    cases hasZeroPage mn && short known v <;> exact ⟨rfl, rfl⟩

private theorem short_iff : short known v = true ↔ (known = true ∧ 0 ≤ v ∧ v ≤ 255) := by
  simp [short]

private theorem read_direct (h : Mos6502.read m md known = some i) (hd : directValue md = some v) :
    i.mode = candidate i.mn md known := by
  rw [← (expectedMode_some (read_some h).2.1).1, normalize_direct hd]

/-! For a mnemonic that has zero-page addressing, a direct spelling is assembled in a zero-page
mode exactly when the operand is known now and lies in `0..$FF` (`zero_page_rule`), and in an absolute
mode in every other case (`absolute_rule`). -/

theorem zero_page_rule {m : String} {md : Mode} {known : Bool} {i : Instr} {v : Int}
    (h : Mos6502.read m md known = some i) (hd : directValue md = some v)
    (hz : hasZeroPage i.mn = true) :
    isZeroPage i.mode = true ↔ (known = true ∧ 0 ≤ v ∧ v ≤ 255) := by
  rw [read_direct h hd, (candidate_direct hd (hasZeroPage_not_branch hz)).1, hz, Bool.true_and, short_iff]

theorem absolute_rule {m : String} {md : Mode} {known : Bool} {i : Instr} {v : Int}
    (h : Mos6502.read m md known = some i) (hd : directValue md = some v)
    (hz : hasZeroPage i.mn = true) :
    isAbsolute i.mode = true ↔ ¬ (known = true ∧ 0 ≤ v ∧ v ≤ 255) := by
  rw [read_direct h hd, (candidate_direct hd (hasZeroPage_not_branch hz)).2, hz, Bool.true_and,
    Bool.not_eq_true', ← short_iff, Bool.not_eq_true]

/-- An operand not yet known selects the absolute form (for every mnemonic that is not a branch). -/
theorem unknown_selects_absolute {m : String} {md : Mode} {i : Instr} {v : Int}
    (h : Mos6502.read m md false = some i) (hd : directValue md = some v)
    (hb : isBranch i.mn = false) : isAbsolute i.mode = true := by
  rw [read_direct h hd, (candidate_direct hd hb).2, short, Bool.false_and, Bool.and_false, Bool.not_false]

/-- `jmp` / `jsr` (direct operand, no zero-page addressing): always the absolute form. -/
theorem no_zero_page_absolute {m : String} {known : Bool} {i : Instr} {v : Int}
    (h : Mos6502.read m (.direct v) known = some i)
    (hz : hasZeroPage i.mn = false) (hb : isBranch i.mn = false) : i.mode = .absolute := by
  rw [read_direct (v := v) h rfl]
  simp [candidate, hb, hz]

/-- A branch mnemonic with a direct operand is relative; the line is accepted exactly when the
target is within -128..+127 of the next instruction, and then the operand byte is the
two's-complement displacement. -/
theorem branch_rule {pc : Nat} {mn : Mn} {known : Bool} {v : Int} (hb : isBranch mn = true) :
    expected pc mn.name (.direct v) known =
      if -128 ≤ v - ((pc : Int) + 2) ∧ v - ((pc : Int) + 2) ≤ 127 then
        (opcode mn .relative).map fun op => [op, ((v - ((pc : Int) + 2)) % 256).toNat]
      else none := by
  obtain ⟨op, ho⟩ := branch_opcode hb
  simp [expected, Mos6502.read, parse_name, expectedMode, normalize, hasIndirect, candidate, hb, ho,
    modeValue, wf, opSize, enc, operandBytes]

/-- A direct spelling whose final value lies outside `0..$FFFF`, known now or only later, is rejected on
every mnemonic that is not a branch (for branches see `branch_rule`). -/
theorem direct_out_of_range_rejected {pc : Nat} {m : String} {md : Mode} {known : Bool} {v : Int}
    (hd : directValue md = some v) (hv : v < 0 ∨ 65535 < v)
    (hnb : ∀ mn, Mn.parse m = some mn → isBranch mn = false) :
    expected pc m md known = none := by
  cases hex : expected pc m md known with
  | none => rfl
  | some bs =>
    exfalso
    obtain ⟨i, -, hr, hw, -, -⟩ := expected_shape hex
    obtain ⟨hp, -, hval⟩ := read_some hr
    have hm := read_direct hr hd
    -- one of six modes, each with an operand range inside `0..$FFFF`
    cases md <;> cases hd <;> simp only [candidate, hnb _ hp, Bool.false_eq_true, if_false] at hm <;>
      split at hm <;> simp [wf, hm, opSize, hval, modeValue] at hw <;> omega

example : expected 0 "lda" (.direct 0x10) true = some [0xA5, 0x10] := by decide +kernel
example : expected 0 "lda" (.direct 0x10) false = some [0xAD, 0x10, 0x00] := by decide +kernel
example : expected 0 "lda" (.direct 0x100) true = some [0xAD, 0x00, 0x01] := by decide +kernel
example : expected 0x10 "bne" (.direct 0x10) true = some [0xD0, 0xFE] := by decide +kernel
example : expected 0 "adc" (.directY 0x10) true = none := by decide +kernel
example : expected 0 "adc" (.directY 0x110) true = some [0x79, 0x10, 0x01] := by decide +kernel
example : expected 0 "jmp" (.direct 0x10) true = some [0x4C, 0x10, 0x00] := by decide +kernel
example : expected 0 "jmp" (.indirect 0xCAFE) true = some [0x6C, 0xFE, 0xCA] := by decide +kernel
example : expected 0 "asl" .acc true = some [0x0A] := by decide +kernel
example : expected 0 "asl" .implied true = none := by decide +kernel
example : expected 0 "stx" (.directY 0x1234) true = none := by decide +kernel
example : expected 0 "lda" (.immediate 256) true = none := by decide +kernel
example : expected 0 "lda" (.direct 0x10000) true = none := by decide +kernel
example : expected 0 "bne" (.direct 0x82) true = none := by decide +kernel
example : expected 0 "bne" (.direct 0x81) true = some [0xD0, 0x7F] := by decide +kernel
example : expected 0 "LDX" (.indirectY 0x10) true = some [0xB6, 0x10] := by decide +kernel

end Az65.Thm.IsaMos6502
