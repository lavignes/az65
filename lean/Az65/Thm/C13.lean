import Az65.Model.Tables
import Az65.Model.Expr
import Az65.Lemmas.LexLemmas
/-
C13 (lexer and evaluator part) — "Every input ends in a binary or a diagnostic — never a crash."

* the lexer never reaches its one panic site (`InShiftSymbol` `unwrap`), for every character
  sequence and EVERY name table (so in particular for the three tables regenerated from the
  source).  `TableOk`, `tables_ok` and `shift_buffer` are an additional fact about those three
  tables (no spelling but `<<` and `>>` has the name `ShiftLeft` or `ShiftRight`), which
  `lexer_total` does not use;
* one `Lexer::next` always terminates within the fuel the model gives it (the fuel-bounded
  function is the unbounded loop);
* the evaluator's lazy-symbol recursion never runs out of the fuel the model gives it.
-/
namespace Az65.Thm.C13
open Az65

theorem lookupName_mem {tbl : List (String × String)} {s v : String}
    (h : lookupName tbl s = some v) : (s, v) ∈ tbl := by
  induction tbl with
  | nil => cases h
  | cons kv r ih =>
    obtain ⟨k, w⟩ := kv
    unfold lookupName at h
    split at h
    · rename_i hk; cases h; subst hk; exact List.mem_cons_self
    · exact List.mem_cons_of_mem _ (ih h)

/-- The state invariant: in `InShiftSymbol` the buffer is a spelling found in the symbol table
(that is how the machine got there), so the second lookup's `unwrap` cannot fail. -/
def ShiftOk (T : LexTables) (lx : Lexer) : Prop :=
  lx.state = .inShiftSymbol → (lookupName T.symbols (String.ofList lx.buf)).isSome = true

def NoCrash (e : LexErr) : Prop := ∀ s, e.kind ≠ .crash s

theorem ShiftOk_new (T : LexTables) (f : Nat) (cs : List Char) (e : StreamEnd) :
    ShiftOk T (Lexer.new f cs e) := by
  intro h; cases h

theorem lexChar_shiftOk (T : LexTables) (lx : Lexer) (c : Char) (hok : ShiftOk T lx) :
    ShiftOk T (lexChar T lx c).lx := by
  obtain ⟨F, hF, h⟩ := lexChar_step₁ T lx c
  rw [h]
  cases hF with
  | go s' b' _ _ hsh => exact hsh
  | start s' b' _ _ hsh => exact fun h => absurd h hsh
  | newline | err => exact hok
  | tok | errEnd => exact nofun

theorem crash_mem_errsOf {s : LState} {site : String} {cur : Bool}
    (h : (.crash site, cur) ∈ errsOf s) : s = .inShiftSymbol := by
  cases s <;> simp [errsOf] at h ⊢

/-- **C13 (`lexChar` never panics).**  For any table, from a state with `ShiftOk`, one iteration
never produces the `crash` outcome (the Rust `unwrap` in `InShiftSymbol` cannot fail). -/
theorem lexChar_no_crash (T : LexTables) (lx : Lexer) (c : Char) (hok : ShiftOk T lx) :
    (lexChar T lx c).ErrP NoCrash := by
  obtain ⟨F, hF, h⟩ := lexChar_step₁ T lx c
  rw [h]
  cases hF with
  | go | start | newline | tok => trivial
  | err k cur hk hsh =>
    intro site (hc : k = _)
    have hs := crash_mem_errsOf (hc ▸ hk)
    have := hok hs
    rw [hsh hs] at this; cases this
  | errEnd k f _ hsh hk => exact fun site (hc : k = _) => hsh (crash_mem_errsOf (hc ▸ hk))

theorem lexStep_no_crash (T : LexTables) (lx : Lexer) (hok : ShiftOk T lx) :
    ShiftOk T (lexStep T lx).lx ∧ (lexStep T lx).TokP (fun _ => True) ∧
      (lexStep T lx).ErrP NoCrash := by
  rcases lexStep_cases T lx with ⟨l, c, hf, e⟩ | ⟨_, _, _, _, e⟩ | ⟨io, _, _, _, e⟩ <;> rw [e]
  · have hl : ShiftOk T l := by cases hf <;> exact hok
    exact ⟨lexChar_shiftOk T l c hl, LexOut.TokP_true _, lexChar_no_crash T l c hl⟩
  · exact ⟨hok, trivial, trivial⟩
  · exact ⟨hok, trivial, nofun⟩

/-- **C13 (the lexer never panics).**  For every name table, character sequence, stream end and
fuel, a whole run of the lexer ends with tokens and possibly a *diagnostic* — never with the `crash`
outcome.  (No hypothesis on the table is needed: the machine enters `InShiftSymbol` only with a
buffer it has just found in the table.)  A run that `fuel` cuts short ends in `none` as well
(`lexAll` at fuel 0 is `([], none)`), so for such a `fuel` this says nothing about the text not yet
read; `C18Ws.lexAll_fuel_stable` says which fuel never cuts a run short (`cs.length + 2` here,
`C18Ws.lexAll_fuel_new`). -/
theorem lexer_total (T : LexTables) (file : Nat) (cs : List Char) (ending : StreamEnd)
    (fuel : Nat) (site : String) (loc : Loc) :
    (lexAll T fuel (Lexer.new file cs ending)).2 ≠ some ⟨.crash site, loc⟩ := by
  intro h
  exact (lexAll_inv (lexStep_no_crash T) fuel _ (ShiftOk_new T file cs ending)).2 _ h site rfl

/-- The same for a single `Lexer::next` on a fresh lexer (`Lexer.new`), whatever its fuel. -/
theorem next_total (T : LexTables) (file : Nat) (cs : List Char) (ending : StreamEnd) (f : Nat)
    (e : LexErr) (lx' : Lexer) (h : Lexer.next T f (Lexer.new file cs ending) = .err e lx') :
    ∀ s, e.kind ≠ .crash s :=
  LexOut.ErrP_of_eq (Lexer.next_inv (lexStep_no_crash T) f _ (ShiftOk_new T file cs ending)).2.2 h

/-- **C13 (no lexer panic for the three CPUs)** — the instance for the generated tables. -/
theorem lexer_total_arch (a : Arch) (file : Nat) (cs : List Char) (ending : StreamEnd) (fuel : Nat)
    (site : String) (loc : Loc) :
    (lexAll (lexTables a) fuel (Lexer.new file cs ending)).2 ≠ some ⟨.crash site, loc⟩ :=
  lexer_total (lexTables a) file cs ending fuel site loc

/-- A fact about the shape of a symbol table: `<<` and `>>` are symbols, and they are the only
spellings of the names `ShiftLeft` / `ShiftRight` (the two names that send the machine to
`InShiftSymbol`).  `shift_buffer` draws the consequence for one lookup (a spelling found under one
of the two names is `<<` or `>>`); that the buffer of a reachable `InShiftSymbol` state is one of the
two is not stated, and `lexer_total` needs neither. -/
def TableOk (T : LexTables) : Prop :=
  (lookupName T.symbols "<<").isSome = true ∧ (lookupName T.symbols ">>").isSome = true ∧
  ∀ kv ∈ T.symbols, (kv.2 = "ShiftLeft" ∨ kv.2 = "ShiftRight") → (kv.1 = "<<" ∨ kv.1 = ">>")

instance (T : LexTables) : Decidable (TableOk T) := by unfold TableOk; infer_instance

/-- **C13 (the generated tables).**  The symbol tables of the three CPUs, as regenerated from the
Rust source, satisfy `TableOk`. -/
theorem tables_ok : ∀ a, TableOk (lexTables a) := by
  intro a; cases a <;> decide +kernel

theorem shift_buffer {T : LexTables} (hT : TableOk T) {s name : String}
    (h : lookupName T.symbols s = some name) (hn : name = "ShiftLeft" ∨ name = "ShiftRight") :
    s = "<<" ∨ s = ">>" :=
  hT.2.2 _ (lookupName_mem h) hn

/-- What can still be fetched before anything is put back: one per unread character, one for the
end-of-input flush not yet done, one for a stashed character.  Every fetch takes exactly one off
(`fetch_mu`); only a step that returns a token or an error may stash a character again. -/
def mu (lx : Lexer) : Nat :=
  lx.input.length + (if lx.eof then 0 else 1) + (if lx.stash.isSome then 1 else 0)

theorem mu_lt_fuel (lx : Lexer) : mu lx < lx.fuel := by
  unfold mu Lexer.fuel; split <;> split <;> omega

theorem fetch_mu {lx l : Lexer} {c : Char} (h : Fetch lx l c) : mu l + 1 = mu lx := by
  cases h with
  | stash hs => simp [mu, hs]
  | input hs hi => simp [mu, hs, hi]; omega
  | flush hs hi he hf => simp [mu, hs, hi, hf]

theorem lexStep_more_decreases {T : LexTables} {lx lx' : Lexer} (h : lexStep T lx = .more lx') :
    mu lx' < mu lx := by
  rcases lexStep_cases T lx with ⟨l, c, hf, e⟩ | ⟨_, _, _, _, e⟩ | ⟨io, _, _, _, e⟩ <;> rw [e] at h
  · obtain ⟨(f1 : lx'.input = _), _, _, (f4 : lx'.eof = _)⟩ := h ▸ lexChar_frame T l c
    have : mu lx' = mu l := by unfold mu; rw [lexChar_more_stash h, f1, f4]
    exact this ▸ Nat.lt_of_succ_le (Nat.le_of_eq (fetch_mu hf))
  · cases h
  · cases h

/-- The loop of `Lexer::next` without fuel, as a relation: iterate `lexStep` while it says
`continue`; the first other outcome is the result. -/
inductive Loop (T : LexTables) : Lexer → LexOut → Prop
  | stop {lx : Lexer} {o : LexOut} : lexStep T lx = o → (∀ lx', o ≠ .more lx') → Loop T lx o
  | more {lx lx' : Lexer} {o : LexOut} : lexStep T lx = .more lx' → Loop T lx' o → Loop T lx o

theorem Loop_deterministic {T : LexTables} {lx : Lexer} {o1 o2 : LexOut}
    (h1 : Loop T lx o1) (h2 : Loop T lx o2) : o1 = o2 := by
  induction h1 with
  | stop e1 n1 =>
    cases h2 with
    | stop e2 _ => exact e1.symm.trans e2
    | more e2 _ => rw [e2] at e1; exact absurd e1.symm (n1 _)
  | more e1 _ ih =>
    cases h2 with
    | stop e2 n2 => rw [e1] at e2; exact absurd e2.symm (n2 _)
    | more e2 l2 => rw [e1] at e2; cases e2; exact ih l2

theorem next_is_loop (T : LexTables) (f : Nat) : ∀ lx, mu lx < f → Loop T lx (Lexer.next T f lx) := by
  induction f with
  | zero => intro lx h; omega
  | succ f ih =>
    intro lx hlt
    cases h : lexStep T lx with
    | more lx' =>
      rw [Lexer.next_more f h]
      have := lexStep_more_decreases h
      exact Loop.more h (ih lx' (by omega))
    | tok | err | done =>
      have hn : ∀ lx', lexStep T lx ≠ .more lx' := by rw [h]; exact fun _ h => nomatch h
      rw [Lexer.next_stop f hn]
      exact Loop.stop rfl hn

theorem lexStep_done_inv {T : LexTables} {lx lx' : Lexer} (h : lexStep T lx = .done lx') :
    lx' = lx ∧ lx.stash = none ∧ lx.input = [] ∧ lx.ending = .eof ∧ lx.eof = true := by
  rcases lexStep_cases T lx with ⟨l, c, _, e⟩ | ⟨h1, h2, h3, h4, e⟩ | ⟨io, _, _, _, e⟩ <;> rw [e] at h
  · exact absurd h (lexChar_ne_done T l c lx')
  · cases h; exact ⟨rfl, h1, h2, h3, h4⟩
  · cases h

theorem Loop_result {T : LexTables} {lx : Lexer} {o : LexOut} (h : Loop T lx o) :
    (∃ t lx', o = .tok t lx') ∨ (∃ e lx', o = .err e lx') ∨
    (∃ lx', o = .done lx' ∧ lx'.stash = none ∧ lx'.input = [] ∧ lx'.ending = .eof ∧ lx'.eof = true) := by
  induction h with
  | more _ _ ih => exact ih
  | @stop lx o e n =>
    cases o with
    | tok t l => exact Or.inl ⟨t, l, rfl⟩
    | err x l => exact Or.inr (Or.inl ⟨x, l, rfl⟩)
    | more l => exact absurd rfl (n l)
    | done l =>
      obtain ⟨h1, h2, h3, h4, h5⟩ := lexStep_done_inv e
      subst h1
      exact Or.inr (Or.inr ⟨_, rfl, h2, h3, h4, h5⟩)

/-- **C13 (one `next` terminates).**  With the fuel the model gives it (`2 * input.length + 8`),
`Lexer::next` is exactly the unbounded loop (it never stops because the fuel ran out): it returns
a token, or an error, or `done` — and `done` only when the stream is genuinely exhausted (nothing
stashed, no input left, clean end, flush performed); never `more`.  More fuel changes nothing. -/
theorem lexer_progress (T : LexTables) (lx : Lexer) :
    Loop T lx (Lexer.next T lx.fuel lx) ∧
    ((∃ t lx', Lexer.next T lx.fuel lx = .tok t lx') ∨
     (∃ e lx', Lexer.next T lx.fuel lx = .err e lx') ∨
     (∃ lx', Lexer.next T lx.fuel lx = .done lx' ∧ lx'.stash = none ∧ lx'.input = [] ∧
        lx'.ending = .eof ∧ lx'.eof = true)) ∧
    (∀ lx', Lexer.next T lx.fuel lx ≠ .more lx') ∧
    (∀ f, lx.fuel ≤ f → Lexer.next T f lx = Lexer.next T lx.fuel lx) := by
  have hl := next_is_loop T lx.fuel lx (mu_lt_fuel lx)
  have hr := Loop_result hl
  refine ⟨hl, hr, ?_, ?_⟩
  · intro lx' h
    rcases hr with ⟨_, _, h'⟩ | ⟨_, _, h'⟩ | ⟨_, h', _⟩ <;> rw [h'] at h <;> cases h
  · intro f hf
    exact Loop_deterministic (next_is_loop T f lx (Nat.lt_of_lt_of_le (mu_lt_fuel lx) hf)) hl

/-- The pure steps never report `"fuel"`: their crash sites are `"pop"` and `"node"` (which, by C04,
compiled expressions never reach). -/
theorem pureStep_ne_fuel (n : Node) (st : List I32) : pureStep n st ≠ .crash "fuel" := by
  -- node by node the step computes down to `match`es on the stack (for `div` / `rem` also on the
  -- divisor) whose leaves are `ok`, `unsolved`, `crash "pop"` or `crash "node"`.  (`split` on the
  -- `match n` itself, with its catch-all for 27 constructors, runs out of heartbeats.)
  cases n <;> dsimp only [pureStep, un1, bin2]
  all_goals (repeat' split) <;> simp

theorem sizeOfStep_ne_crash (env : Env) (x : String) (s : String) : sizeOfStep env x ≠ .crash s := by
  unfold sizeOfStep
  (repeat' split) <;> simp

theorem labelStep_ne_fuel {lazy : List String → List Node → Res I32} {env : Env} {vis : List String}
    (hl : ∀ x e body, env.get x = some e → e.sym = .expr body → vis.contains x = false →
      lazy (x :: vis) body ≠ .crash "fuel") (x : String) :
    labelStep lazy env vis x ≠ .crash "fuel" := by
  unfold labelStep
  split
  · simp
  · rename_i e he
    split
    · simp
    · rename_i body hb
      split
      · simp
      · rename_i hc
        exact hl x e body he hb (by simpa using hc)

theorem evalList_ne_fuel {lazy : List String → List Node → Res I32} {env : Env} {vis : List String}
    (hl : ∀ x e body, env.get x = some e → e.sym = .expr body → vis.contains x = false →
      lazy (x :: vis) body ≠ .crash "fuel") :
    ∀ ns st, evalList lazy env vis ns st ≠ .crash "fuel" := by
  intro ns
  induction ns with
  | nil => intro st; cases st <;> simp [evalList]
  | cons n ns ih =>
    intro st
    simp only [evalList]
    split
    · rename_i x _  -- `.label x`
      have := labelStep_ne_fuel hl x
      split
      · exact ih _  -- ok
      · simp  -- unsolved
      · rename_i s hs; rw [hs] at this; exact this  -- crash
    · rename_i x _  -- `.sizeOf x`
      split
      · exact ih _  -- ok
      · simp  -- unsolved
      · rename_i s hs; exact absurd hs (sizeOfStep_ne_crash env x s)  -- crash
    · have := pureStep_ne_fuel n st  -- a pure step
      split
      · exact ih _  -- ok
      · simp  -- unsolved
      · rename_i s hs; intro h; injection h with h; subst h; exact this hs  -- crash

theorem get_isSome_mem_keys {env : Env} {x : String} (h : (env.get x).isSome = true) :
    x ∈ env.map (·.1) := by
  induction env with
  | nil => simp [Env.get] at h
  | cons kv r ih =>
    obtain ⟨k, e⟩ := kv
    unfold Env.get at h
    split at h
    · rename_i hk; subst hk; simp
    · simp only [List.map_cons, List.mem_cons]; exact Or.inr (ih h)

theorem visiting_length_le {env : Env} {vis : List String} (hn : vis.Nodup)
    (hk : ∀ x ∈ vis, (env.get x).isSome = true) : vis.length ≤ env.length := by
  have := List.Nodup.length_le_of_subset hn (l₂ := env.map (·.1)) (fun x hx => get_isSome_mem_keys (hk x hx))
  simpa using this

/-- Along the lazy-symbol recursion `visiting` is a duplicate-free list of names found in the table
(so no longer than the table, `visiting_length_le`) and every level adds a new one: the invariant
`fuel + visiting.length ≥ env.length + 1` keeps the fuel positive. -/
theorem evalAt_ne_fuel (env : Env) : ∀ (f : Nat) (vis : List String) (ns : List Node),
    vis.Nodup → (∀ x ∈ vis, (env.get x).isSome = true) → env.length + 1 ≤ f + vis.length →
    evalAt f env vis ns ≠ .crash "fuel" := by
  intro f
  induction f with
  | zero =>
    intro vis ns hn hk hb
    have := visiting_length_le hn hk
    omega
  | succ f ih =>
    intro vis ns hn hk hb
    show evalList (evalAt f env) env vis ns [] ≠ .crash "fuel"
    apply evalList_ne_fuel
    intro x e body he _ hc
    have hx : x ∉ vis := by simpa using hc
    apply ih
    · exact List.nodup_cons.mpr ⟨hx, hn⟩
    · intro y hy
      rcases List.mem_cons.mp hy with rfl | hy
      · rw [he]; rfl
      · exact hk y hy
    · simp only [List.length_cons]; omega

/-- **C13 (the evaluator never runs out of fuel).**  `evaluate env ns` is never `crash "fuel"`:
the fuel `env.length + 2` always covers the depth of lazy-symbol recursion, for every symbol
table (association list, duplicate keys allowed) and every node list. -/
theorem evaluate_no_fuel_crash (env : Env) (ns : List Node) : evaluate env ns ≠ .crash "fuel" := by
  unfold evaluate
  exact evalAt_ne_fuel env _ [] ns List.nodup_nil (fun _ h => by cases h) (by simp)

/-- `TableOk` is not trivially true: a table where `ShiftLeft` has a second spelling fails it. -/
example : ¬ TableOk { (lexTables .z80) with symbols := ("<", "ShiftLeft") :: Gen.symbolSpell } := by
  decide +kernel

/-- `>>` followed by something else is two-character shift, `>>>` the logical one. -/
example : (lexAll (lexTables .z80) 9 (Lexer.new 0 ['1', '>', '>', '2', '>', '>', '>', '3'])).1.map (·.tok) =
    [.num 1, .sym "ShiftRight", .num 2, .sym "ShiftRightLogical", .num 3, .newline] := by decide +kernel

/-- A cycle of lazy symbols is "could not be solved", not a crash. -/
example : evaluate [("a", ⟨.expr [.label "b"], []⟩), ("b", ⟨.expr [.label "a"], []⟩)] [.label "a"] =
    .unsolved := by decide +kernel

/-- A chain as deep as the table is evaluated. -/
example : evaluate [("a", ⟨.expr [.label "b"], []⟩), ("b", ⟨.expr [.label "c"], []⟩),
    ("c", ⟨.val 7, []⟩)] [.label "a"] = .ok 7 := by decide +kernel

end Az65.Thm.C13
