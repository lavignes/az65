import Az65.Lemmas.ParseLemmas
import Az65.Lemmas.LinkLemmas
import Az65.Thm.C04
/-
C04 (front half) — the expression ladder parses every minimally parenthesised spelling of an
expression tree to that tree's postfix code.

`render k t` is the token spelling of the tree `t` in a context that requires precedence level
`k`, with parentheses exactly where the grammar needs them.  `parse_render`: on any token list
spelling `render k t` (arbitrary locations), followed by any input `rest` that does not continue
an expression at level `k`, `parsePrec … k` consumes exactly the spelling and appends `compile t`
to the node list.  Together with `C04.evalList_compile` (evaluating `compile t` gives the C
value) this ties the text of an expression to its value.
-/
namespace Az65.Thm.C04Parse
open Az65 Az65.Spec Az65.ParseLemmas

/-- `SymbolName` variant of a binary operator. -/
def binSym : BinOp → String
  | .lor => "DoublePipe" | .land => "DoubleAmpersand" | .bor => "Pipe" | .bxor => "Caret"
  | .band => "Ampersand" | .eq => "Equal" | .ne => "NotEqual"
  | .lt => "LessThan" | .le => "LessEqual" | .gt => "GreaterThan" | .ge => "GreaterEqual"
  | .shl => "ShiftLeft" | .shll => "ShiftLeftLogical" | .shr => "ShiftRight"
  | .shrl => "ShiftRightLogical"
  | .add => "Plus" | .sub => "Minus" | .mul => "Star" | .div => "Div" | .rem => "Mod"

/-- Ladder level (`expr_prec_k`) of a binary operator: 1 binds loosest, 10 tightest. -/
def binLevel : BinOp → Nat
  | .lor => 1 | .land => 2 | .bor => 3 | .bxor => 4 | .band => 5
  | .eq => 6 | .ne => 6
  | .lt => 7 | .le => 7 | .gt => 7 | .ge => 7
  | .shl => 8 | .shll => 8 | .shr => 8 | .shrl => 8
  | .add => 9 | .sub => 9
  | .mul => 10 | .div => 10 | .rem => 10

/-- `SymbolName` variant of a prefix operator. -/
def unSym : UnOp → String
  | .neg => "Minus" | .pos => "Plus" | .lnot => "Bang" | .bnot => "Tilde"
  | .lo => "LessThan" | .hi => "GreaterThan"

theorem lookup_bin (o : BinOp) : lookupOp (levelOps (binLevel o)) (binSym o) = some o.node := by
  cases o <;> decide +kernel

theorem lookup_un (o : UnOp) : lookupOp unaryOps (unSym o) = some o.node := by
  cases o <;> decide +kernel

theorem binLevel_pos (o : BinOp) : 1 ≤ binLevel o := by cases o <;> decide
theorem binLevel_le (o : BinOp) : binLevel o ≤ 10 := by cases o <;> decide

theorem lookup_bin_other (o : BinOp) (j : Nat) (h : j ≠ binLevel o) :
    lookupOp (levelOps j) (binSym o) = none := by
  unfold levelOps; split <;> cases o <;> simp [lookupOp, binSym, binLevel] at h ⊢

theorem lookup_delim (j : Nat) :
    lookupOp (levelOps j) "Question" = none ∧ lookupOp (levelOps j) "Colon" = none ∧
      lookupOp (levelOps j) "ParenClose" = none := by
  unfold levelOps; split <;> simp [lookupOp]

/-- Level of the outermost construct of a tree: what it can stand in without parentheses. -/
def prec : CExpr → Nat
  | .tern _ _ _ => 0
  | .bin o _ _ => binLevel o
  | _ => 11

def paren (b : Bool) (body : List Tok) : List Tok :=
  if b then .sym "ParenOpen" :: body ++ [.sym "ParenClose"] else body

/-- The minimally parenthesised token spelling of `t` in a context requiring level `k`. -/
def render : Nat → CExpr → List Tok
  | k, .num v => paren (decide (11 < k)) [.num v.toNat]
  | k, .sym n => paren (decide (11 < k)) [.label .global n]
  | k, .sizeOf n => paren (decide (11 < k)) [.dir "SizeOf", .label .global n]
  | k, .un o e => paren (decide (11 < k)) (.sym (unSym o) :: render 11 e)
  | k, .bin o l r => paren (decide (binLevel o < k))
      (render (binLevel o) l ++ [.sym (binSym o)] ++ render (binLevel o + 1) r)
  | k, .tern c a b => paren (decide (0 < k))
      (render 1 c ++ [.sym "Question"] ++ render 1 a ++ [.sym "Colon"] ++ render 1 b)

/-- The spelling of a tree without outer parentheses. -/
def body : CExpr → List Tok
  | .num v => [.num v.toNat]
  | .sym n => [.label .global n]
  | .sizeOf n => [.dir "SizeOf", .label .global n]
  | .un o e => .sym (unSym o) :: render 11 e
  | .bin o l r => render (binLevel o) l ++ [.sym (binSym o)] ++ render (binLevel o + 1) r
  | .tern c a b => render 1 c ++ [.sym "Question"] ++ render 1 a ++ [.sym "Colon"] ++ render 1 b

/-- What `render` is meant to be.  It is not the definition because `render 0 t` on the right is not
a structurally smaller call. -/
theorem render_eq (k : Nat) (t : CExpr) :
    render k t =
      if prec t < k then .sym "ParenOpen" :: render 0 t ++ [.sym "ParenClose"] else body t := by
  cases t <;> simp [render, paren, prec, body]

theorem prec_le (t : CExpr) : prec t ≤ 11 := by
  cases t <;> simp [prec]
  exact Nat.le_trans (binLevel_le _) (by decide)

theorem render_of_le {k : Nat} {t : CExpr} (h : k ≤ prec t) : render k t = body t := by
  rw [render_eq, if_neg (by omega)]

theorem render_of_lt {k : Nat} {t : CExpr} (h : prec t < k) :
    render k t = .sym "ParenOpen" :: render 0 t ++ [.sym "ParenClose"] := by
  rw [render_eq, if_pos h]

theorem render_succ {m : Nat} {t : CExpr} (h : prec t ≠ m) : render m t = render (m + 1) t := by
  rw [render_eq, render_eq (m + 1)]
  by_cases h' : prec t < m
  · rw [if_pos h', if_pos (by omega)]
  · rw [if_neg h', if_neg (by omega)]

/-- Number literals fit a number token (a `u32`); negative constants use the prefix minus. -/
def WF : CExpr → Prop
  | .num v => 0 ≤ v ∧ v < 2 ^ 32
  | .sym _ => True
  | .sizeOf _ => True
  | .un _ e => WF e
  | .bin _ l r => WF l ∧ WF r
  | .tern c a b => WF c ∧ WF a ∧ WF b

/-- No plain name of the tree is defined in the table yet (so the parser emits a `label` node
for it rather than folding the definition in). -/
def Fresh (E : Env) : CExpr → Prop
  | .num _ => True
  | .sym n => E.get n = none
  | .sizeOf _ => True
  | .un _ e => Fresh E e
  | .bin _ l r => Fresh E l ∧ Fresh E r
  | .tern c a b => Fresh E c ∧ Fresh E a ∧ Fresh E b

/-- The input `rest` does not continue an expression at level `k`: its first token is not a
binary operator of a level the ladder is inside of (levels `max k 1 … 10`), nor, at level 0, `?`.
End of input, a newline, a comma, a closing parenthesis, `:` stop every level. -/
def Stops (k : Nat) (rest : List LTok) : Prop :=
  ∀ s, headSym rest = some s →
    (∀ j, max k 1 ≤ j → j ≤ 10 → lookupOp (levelOps j) s = none) ∧ (k = 0 → s ≠ "Question")

theorem stops_nil (k : Nat) : Stops k [] := by intro s h; simp [headSym] at h

theorem stops_of_not_sym (k : Nat) (t : LTok) (r : List LTok) (h : ∀ s, t.tok ≠ .sym s) :
    Stops k (t :: r) := by
  intro s hs
  obtain ⟨tok, l⟩ := t
  cases tok <;> simp [headSym] at hs
  exact absurd rfl (h _)

theorem stops_mono {k k' : Nat} {rest : List LTok} (h : Stops k rest) (hk : k ≤ k') :
    Stops k' rest := by
  intro s hs
  refine ⟨fun j h1 h2 => (h s hs).1 j (by omega) h2, fun h0 => (h s hs).2 (by omega)⟩

theorem stops_eleven (k : Nat) (hk : 11 ≤ k) (rest : List LTok) : Stops k rest := by
  intro s _
  exact ⟨fun j h1 h2 => by omega, fun h0 => by omega⟩

theorem stops_sym {k : Nat} {s : String} (l : Loc) (r : List LTok)
    (h : ∀ j, max k 1 ≤ j → j ≤ 10 → lookupOp (levelOps j) s = none) (hq : k = 0 → s ≠ "Question") :
    Stops k (⟨.sym s, l⟩ :: r) := by
  intro s' hs
  simp [headSym] at hs; subst hs
  exact ⟨h, hq⟩

/-
Fuel.  `parsePrec` and `parseLoop` give each call they make their own fuel less one, so a parse
needs the depth of its call tree.  `lvl t k` bounds the calls from level `k` to the level `prec t`
that handles `t`'s outermost construct: `prec t - k` when `t` stands without parentheses (each
level calls the next); otherwise `11 - min k 11` up to level 11, one into the parentheses at level
0 and at most 11 from there to `prec t`, together `23 - min k 11` — a bound without `prec t` in it,
which is all that `lvl_succ` and `lvl_paren` need for `ladder` to descend.  It is at most 22
(`lvl_le`: a conditional at level 1).  `baseFuel` is the part that does not depend on `k`: one call
for a leaf; for an operator its own call and `lvl ≤ 22` to reach an operand, hence 23 (`p_un`,
`p_tern`: the three operands of `?:` are parsed at the same depth, their maximum would do where the
sum stands).  Only the loop of a binary level descends as it reads, one call per operator, so a
left operand that is itself a chain at this level leaves less for the right one (`g`, `f'` in
`SStmt`) and the two operands add up: 2 · 23 (`s_bin`; 45 would do).  `fuelNeeded` is linear in the
size of the tree (`fuelNeeded_le`).
-/
def baseFuel : CExpr → Nat
  | .num _ => 1
  | .sym _ => 1
  | .sizeOf _ => 1
  | .un _ e => baseFuel e + 23
  | .bin _ l r => baseFuel l + baseFuel r + 46
  | .tern c a b => baseFuel c + baseFuel a + baseFuel b + 23

def lvl (t : CExpr) (k : Nat) : Nat :=
  if k ≤ prec t then prec t - k else 23 - min k 11

def fuelNeeded (t : CExpr) (k : Nat) : Nat := baseFuel t + lvl t k

def size : CExpr → Nat
  | .num _ => 1
  | .sym _ => 1
  | .sizeOf _ => 1
  | .un _ e => size e + 1
  | .bin _ l r => size l + size r + 1
  | .tern c a b => size c + size a + size b + 1

theorem baseFuel_pos (t : CExpr) : 1 ≤ baseFuel t := by cases t <;> simp [baseFuel]

theorem lvl_le (t : CExpr) (k : Nat) : lvl t k ≤ 22 := by
  have := prec_le t
  unfold lvl; split <;> omega

theorem baseFuel_le (t : CExpr) : baseFuel t + 45 ≤ 46 * size t := by
  induction t <;> simp only [baseFuel, size] <;> omega

theorem fuelNeeded_le (t : CExpr) (k : Nat) : fuelNeeded t k ≤ 46 * size t := by
  have := baseFuel_le t
  have := lvl_le t k
  unfold fuelNeeded; omega

theorem lvl_succ {t : CExpr} {m : Nat} (hm : m ≤ 10) (hp : prec t ≠ m) :
    lvl t (m + 1) < lvl t m := by
  have := prec_le t
  unfold lvl; split <;> split <;> omega

theorem lvl_paren {t : CExpr} {k : Nat} (hk : 11 ≤ k) (hp : prec t < k) : lvl t 0 < lvl t k := by
  have := prec_le t
  unfold lvl; split <;> split <;> omega

theorem fuel_succ {t : CExpr} {k f : Nat} (hf : fuelNeeded t k ≤ f) : ∃ f0, f = f0 + 1 :=
  ⟨f - 1, by have := baseFuel_pos t; unfold fuelNeeded at hf; omega⟩

theorem map_eq_cons {toks : List LTok} {x : Tok} {xs : List Tok}
    (h : toks.map (·.tok) = x :: xs) : ∃ l r, toks = ⟨x, l⟩ :: r ∧ r.map (·.tok) = xs := by
  obtain ⟨⟨_, l⟩, r, rfl, rfl, hr⟩ := List.map_eq_cons_iff.mp h
  exact ⟨l, r, rfl, hr⟩

/-- `E`, `N`: a parse changes the state only by `touch`, which alters nothing but `hits`
(`CoreSt.touch_eq`); so the symbol table and the scope are fixed once, and `Fresh E` stays true from
one operand to the next. -/
def Done (E : Env) (N : Option String) (out : List Node) (rest : List LTok)
    (r : R PlainSt (Loc × List Node)) : Prop :=
  ∃ loc core' cur', r = .ok ((loc, out), ⟨rest, core', cur'⟩) ∧ core'.symtab = E ∧ core'.ns = N

/-- `P` for a complete call of `parsePrec`: the statement of `parse_render` at level `k`. -/
def PStmt (E : Env) (N : Option String) (t : CExpr) (k : Nat) : Prop :=
  ∀ (rest toks : List LTok) (nodes : List Node) (core : CoreSt) (cur : Loc) (f : Nat),
    Stops k rest → toks.map (·.tok) = render k t → core.symtab = E → core.ns = N →
    fuelNeeded t k ≤ f →
    Done E N (nodes ++ compile t) rest (parsePrec plainOps f k nodes ⟨toks ++ rest, core, cur⟩)

/-- `S` for the same call seen up to the start of its loop: `parsePrec … m` on a spelling of
`render m t`, followed by anything that no tighter level continues with, is the loop of level `m`
entered with `compile t` on the node list — whether or not a level-`m` operator follows.  This, not
`PStmt`, is what the left operand of a level-`m` operator has to provide (`s_bin`); `g` is the fuel
the caller wants left for the rest of the loop. -/
def SStmt (E : Env) (N : Option String) (t : CExpr) (m : Nat) : Prop :=
  ∀ (rest toks : List LTok) (nodes : List Node) (core : CoreSt) (cur : Loc) (f g : Nat),
    Stops (m + 1) rest → toks.map (·.tok) = render m t → core.symtab = E → core.ns = N →
    fuelNeeded t m + g ≤ f →
    ∃ loc core' cur' f', g + 1 ≤ f' ∧ core'.symtab = E ∧ core'.ns = N ∧
      parsePrec plainOps f m nodes ⟨toks ++ rest, core, cur⟩ =
        parseLoop plainOps f' m loc (nodes ++ compile t) ⟨rest, core', cur'⟩

variable {E : Env} {N : Option String}

/-- The loop of level `m` ends at input that stops level `m`. -/
theorem p_of_s {t : CExpr} {m : Nat} (h1 : 1 ≤ m) (h10 : m ≤ 10) (hS : SStmt E N t m) :
    PStmt E N t m := by
  intro rest toks nodes core cur f hstop htoks hE hN hf
  obtain ⟨loc, core', cur', f', hf', hE', hN', heq⟩ :=
    hS rest toks nodes core cur f 0 (stops_mono hstop (by omega)) htoks hE hN hf
  obtain ⟨f'', rfl⟩ : ∃ f'', f' = f'' + 1 := ⟨f' - 1, by omega⟩
  obtain ⟨cur'', hl⟩ := pl_stop f'' m loc (nodes ++ compile t) rest core' cur'
    (fun s hs => (hstop s hs).1 m (by omega) h10)
  exact ⟨loc, core', cur'', by rw [heq, hl], hE', hN'⟩

/-- A level that does not handle `t`'s outermost construct passes it to the next level. -/
theorem s_of_p_succ {t : CExpr} {m : Nat} (h1 : 1 ≤ m) (h10 : m ≤ 10) (hp : prec t ≠ m)
    (hP : PStmt E N t (m + 1)) : SStmt E N t m := by
  intro rest toks nodes core cur f g hstop htoks hE hN hf
  obtain ⟨f0, rfl⟩ := fuel_succ (Nat.le_of_add_right_le hf)
  have hb := baseFuel_pos t
  have hl := lvl_succ h10 hp
  unfold fuelNeeded at hf
  obtain ⟨loc, core', cur', h, hE', hN'⟩ :=
    hP rest toks nodes core cur f0 hstop (by rw [htoks, render_succ hp]) hE hN
      (by unfold fuelNeeded; omega)
  exact ⟨loc, core', cur', f0, by omega, hE', hN', pp_bin h1 h10 h⟩

/-- Level 0 passes everything but a conditional to level 1. -/
theorem p_zero_of_one {t : CExpr} (hp : prec t ≠ 0) (hP : PStmt E N t 1) : PStmt E N t 0 := by
  intro rest toks nodes core cur f hstop htoks hE hN hf
  obtain ⟨f0, rfl⟩ := fuel_succ hf
  have hl : lvl t 1 < lvl t 0 := lvl_succ (Nat.zero_le 10) hp
  unfold fuelNeeded at hf
  obtain ⟨loc, core', cur', h, hE', hN'⟩ :=
    hP rest toks nodes core cur f0 (stops_mono hstop (by omega))
      (by rw [htoks, render_succ hp]) hE hN (by unfold fuelNeeded; omega)
  obtain ⟨cur'', h'⟩ := pp_zero_stop h (fun hh => (hstop _ hh).2 rfl rfl)
  exact ⟨loc, core', cur'', h', hE', hN'⟩

/-- A tree that needs parentheses at level `k` is parsed by the parenthesis case of level 11. -/
theorem p_paren {t : CExpr} {k : Nat} (hk : 11 ≤ k) (hp : prec t < k) (hP : PStmt E N t 0) :
    PStmt E N t k := by
  intro rest toks nodes core cur f hstop htoks hE hN hf
  obtain ⟨f0, rfl⟩ := fuel_succ hf
  have hl := lvl_paren hk hp
  unfold fuelNeeded at hf
  rw [render_of_lt hp] at htoks
  obtain ⟨lo, r1, rfl, h1⟩ := map_eq_cons htoks
  obtain ⟨mid, last, rfl, hmid, hlast⟩ := List.map_eq_append_iff.mp h1
  obtain ⟨lc, r2, rfl, h2⟩ := map_eq_cons hlast
  cases List.map_eq_nil_iff.mp h2
  obtain ⟨loc, core', cur', h, hE', hN'⟩ :=
    hP (⟨.sym "ParenClose", lc⟩ :: rest) mid nodes core lo f0
      (stops_sym _ _ (fun j _ _ => (lookup_delim j).2.2) (fun _ => by decide)) hmid hE hN
      (by unfold fuelNeeded; omega)
  refine ⟨lo, core', lc, ?_, hE', hN'⟩
  rw [parsePrec_prim _ _ hk]
  simpa using pp_paren (cur := cur) h

/-- All levels of one tree from the level that handles its outermost construct (the three
hypotheses), by induction on `lvl t k`: every other level hands `t` on to one with a smaller `lvl` —
the next level, or level 0 inside parentheses. -/
theorem ladder (t : CExpr)
    (hb11 : prec t = 11 → PStmt E N t 11)
    (hbm : ∀ m, 1 ≤ m → m ≤ 10 → prec t = m → SStmt E N t m)
    (hb0 : prec t = 0 → PStmt E N t 0) :
    ∀ n k, lvl t k = n → PStmt E N t k ∧ (1 ≤ k → k ≤ 10 → SStmt E N t k) := by
  have hpl := prec_le t
  intro n
  induction n using Nat.strongRecOn with
  | _ n ih =>
    intro k hk
    subst hk
    -- the level the parser goes to from `k` when `k` does not handle `t` itself
    have next {k'} (h : lvl t k' < lvl t k) : PStmt E N t k' := (ih _ h k' rfl).1
    by_cases hk0 : k = 0
    · subst hk0
      refine ⟨?_, fun h => by omega⟩
      by_cases hp : prec t = 0
      · exact hb0 hp
      · exact p_zero_of_one hp (next (lvl_succ (Nat.zero_le 10) hp))
    · by_cases hk10 : k ≤ 10
      · have hS : SStmt E N t k := by
          by_cases hp : prec t = k
          · exact hbm k (by omega) hk10 hp
          · exact s_of_p_succ (by omega) hk10 hp (next (lvl_succ hk10 hp))
        exact ⟨p_of_s (by omega) hk10 hS, fun _ _ => hS⟩
      · refine ⟨?_, fun _ h => by omega⟩
        by_cases hp : prec t < k
        · exact p_paren (by omega) hp (next (lvl_paren (by omega) hp))
        · obtain rfl : k = 11 := by omega
          exact hb11 (by omega)

theorem p_num (v : Int) (hwf : WF (.num v)) : PStmt E N (.num v) 11 := by
  intro rest toks nodes core cur f _ htoks hE hN hf
  obtain ⟨f0, rfl⟩ := fuel_succ hf
  obtain ⟨l, r, rfl, h1⟩ := map_eq_cons htoks
  cases List.map_eq_nil_iff.mp h1
  have hv : BitVec.ofInt 32 v = i32OfNat v.toNat := by
    rw [i32OfNat, ← BitVec.ofInt_natCast, Int.toNat_of_nonneg hwf.1]
  exact ⟨l, core, l, by rw [compile, hv]; exact pp_num, hE, hN⟩

theorem p_sym (n : String) (hfr : Fresh E (.sym n)) : PStmt E N (.sym n) 11 := by
  intro rest toks nodes core cur f _ htoks hE hN hf
  obtain ⟨f0, rfl⟩ := fuel_succ hf
  obtain ⟨l, r, rfl, h1⟩ := map_eq_cons htoks
  cases List.map_eq_nil_iff.mp h1
  have hn : labelNode core n = .label n := by
    simp only [Fresh] at hfr
    simp [labelNode, hE, hfr]
  exact ⟨l, core.touch n l, l, by rw [compile, ← hn]; exact pp_label,
    by rw [CoreSt.touch_eq]; exact hE, by rw [CoreSt.touch_eq]; exact hN⟩

theorem p_sizeOf (n : String) : PStmt E N (.sizeOf n) 11 := by
  intro rest toks nodes core cur f _ htoks hE hN hf
  obtain ⟨f0, rfl⟩ := fuel_succ hf
  obtain ⟨l, r, rfl, h1⟩ := map_eq_cons htoks
  obtain ⟨l2, r2, rfl, h2⟩ := map_eq_cons h1
  cases List.map_eq_nil_iff.mp h2
  exact ⟨l2, core.touch n l2, l2, pp_sizeOf,
    by rw [CoreSt.touch_eq]; exact hE, by rw [CoreSt.touch_eq]; exact hN⟩

theorem p_un (o : UnOp) (e : CExpr) (hP : PStmt E N e 11) : PStmt E N (.un o e) 11 := by
  intro rest toks nodes core cur f hstop htoks hE hN hf
  obtain ⟨f0, rfl⟩ := fuel_succ hf
  obtain ⟨l, r, rfl, h1⟩ := map_eq_cons htoks
  have hle := lvl_le e 11
  obtain ⟨loc, core', cur', h, hE', hN'⟩ :=
    hP rest r nodes core l f0 hstop h1 hE hN
      (by simp [fuelNeeded, baseFuel] at hf ⊢; omega)
  refine ⟨l, core', cur', ?_, hE', hN'⟩
  rw [List.cons_append, pp_un (lookup_un o) h]
  cases hn : o.node <;> simp [compile, hn]

theorem s_bin (o : BinOp) (l r : CExpr) (hS : SStmt E N l (binLevel o))
    (hP : PStmt E N r (binLevel o + 1)) : SStmt E N (.bin o l r) (binLevel o) := by
  intro rest toks nodes core cur f g hstop htoks hE hN hf
  rw [render_of_le (t := .bin o l r) (Nat.le_refl (binLevel o))] at htoks
  simp only [body, List.append_assoc, List.singleton_append] at htoks
  obtain ⟨tl, t2, rfl, htl, h2⟩ := List.map_eq_append_iff.mp htoks
  obtain ⟨ol, tr, rfl, htr⟩ := map_eq_cons h2
  have hll := lvl_le l (binLevel o)
  have hlr := lvl_le r (binLevel o + 1)
  simp only [fuelNeeded, baseFuel] at hf
  obtain ⟨loc, c1, cur1, f1, hf1, hE1, hN1, h1⟩ :=
    hS (⟨.sym (binSym o), ol⟩ :: (tr ++ rest)) tl nodes core cur f
      (fuelNeeded r (binLevel o + 1) + 1 + g)
      (stops_sym _ _ (fun j h1 _ => lookup_bin_other o j (by omega)) (fun h0 => by omega))
      htl hE hN (by unfold fuelNeeded; omega)
  obtain ⟨f2, rfl⟩ : ∃ f2, f1 = f2 + 1 := ⟨f1 - 1, by omega⟩
  obtain ⟨loc2, c2, cur2, h2, hE2, hN2⟩ :=
    hP rest tr (nodes ++ compile l) c1 ol f2 hstop htr hE1 hN1 (by omega)
  refine ⟨loc, c2, cur2, f2, by omega, hE2, hN2, ?_⟩
  simp only [List.append_assoc, List.cons_append] at h1 ⊢
  rw [h1, pl_op (lookup_bin o) h2]
  simp [compile]

theorem p_tern (c a b : CExpr) (hc : PStmt E N c 1) (ha : PStmt E N a 1) (hb : PStmt E N b 1) :
    PStmt E N (.tern c a b) 0 := by
  intro rest toks nodes core cur f hstop htoks hE hN hf
  rw [render_of_le (t := .tern c a b) (Nat.le_refl 0)] at htoks
  simp only [body, List.append_assoc, List.singleton_append] at htoks
  obtain ⟨tc, t2, rfl, htc, h2⟩ := List.map_eq_append_iff.mp htoks
  obtain ⟨ql, t3, rfl, h3⟩ := map_eq_cons h2
  obtain ⟨ta, t4, rfl, hta, h4⟩ := List.map_eq_append_iff.mp h3
  obtain ⟨cl, tb, rfl, htb⟩ := map_eq_cons h4
  have hlc := lvl_le c 1
  have hla := lvl_le a 1
  have hlb := lvl_le b 1
  obtain ⟨f0, rfl⟩ := fuel_succ hf
  simp only [fuelNeeded, baseFuel] at hf
  obtain ⟨loc, c1, cur1, h1, hE1, hN1⟩ :=
    hc (⟨.sym "Question", ql⟩ :: (ta ++ ⟨.sym "Colon", cl⟩ :: tb ++ rest)) tc nodes core cur f0
      (stops_sym _ _ (fun j _ _ => (lookup_delim j).1) (fun h0 => by omega)) htc hE hN
      (by unfold fuelNeeded; omega)
  obtain ⟨loc2, c2, cur2, h2, hE2, hN2⟩ :=
    ha (⟨.sym "Colon", cl⟩ :: (tb ++ rest)) ta (nodes ++ compile c) c1 ql f0
      (stops_sym _ _ (fun j _ _ => (lookup_delim j).2.1) (fun h0 => by omega)) hta hE1 hN1
      (by unfold fuelNeeded; omega)
  obtain ⟨loc3, c3, cur3, h3, hE3, hN3⟩ :=
    hb rest tb (nodes ++ compile c ++ compile a) c2 cl f0
      (stops_mono hstop (by omega)) htb hE2 hN2 (by unfold fuelNeeded; omega)
  refine ⟨loc, c3, cur3, ?_, hE3, hN3⟩
  simp only [List.append_assoc, List.cons_append] at h1 h2 h3 ⊢
  rw [pp_zero_tern h1 h2 h3]
  simp [compile]

/-- `ladder` for a tree handled by level 11 (constants, names, `@sizeof`, prefix operators). -/
theorem ladder_prim {t : CExpr} (hp : prec t = 11) (h : PStmt E N t 11) (k : Nat) :
    PStmt E N t k ∧ (1 ≤ k → k ≤ 10 → SStmt E N t k) :=
  ladder t (fun _ => h) (fun m _ h10 hm => by omega) (fun h0 => by omega) _ k rfl

theorem all_levels (t : CExpr) (hwf : WF t) (hfr : Fresh E t) :
    ∀ k, PStmt E N t k ∧ (1 ≤ k → k ≤ 10 → SStmt E N t k) := by
  induction t with
  | num v => exact ladder_prim rfl (p_num v hwf)
  | sym n => exact ladder_prim rfl (p_sym n hfr)
  | sizeOf n => exact ladder_prim rfl (p_sizeOf n)
  | un o e ih => exact ladder_prim rfl (p_un o e (ih hwf hfr 11).1)
  | bin o l r ihl ihr =>
    intro k
    have h1 := binLevel_pos o
    have h10 := binLevel_le o
    have hp : prec (.bin o l r) = binLevel o := rfl
    refine ladder (.bin o l r) (fun h => by omega) ?_ (fun h => by omega) _ k rfl
    intro m _ _ hm
    obtain rfl : binLevel o = m := hp.symm.trans hm
    exact s_bin o l r ((ihl hwf.1 hfr.1 _).2 h1 h10) (ihr hwf.2 hfr.2 _).1
  | tern c a b ihc iha ihb =>
    intro k
    have hp : prec (.tern c a b) = 0 := rfl
    exact ladder (.tern c a b) (fun h => by omega) (fun m h1 _ hm => by omega)
      (fun _ => p_tern c a b (ihc hwf.1 hfr.1 1).1 (iha hwf.2.1 hfr.2.1 1).1
        (ihb hwf.2.2 hfr.2.2 1).1) _ k rfl

/-- **C04 (parser).**  For every tree `t` whose literals fit a number token (`WF`) and whose names
are not defined yet (`Fresh`), and every level `k`: on any token list spelling the minimally
parenthesised rendering `render k t` (arbitrary locations), followed by any `rest` that does not
continue an expression at level `k`, the ladder entered at level `k` with fuel `fuelNeeded t k`
consumes exactly the spelling and appends the postfix code `compile t`; the symbol table and the
active scope are unchanged (only first-reference `hits` are recorded). -/
theorem parse_render (t : CExpr) (hwf : WF t) (k : Nat) (rest : List LTok) (hstop : Stops k rest)
    (toks : List LTok) (htoks : toks.map (·.tok) = render k t)
    (nodes : List Node) (core : CoreSt) (cur : Loc) (hsym : Fresh core.symtab t)
    (fuel : Nat) (hfuel : fuelNeeded t k ≤ fuel) :
    ∃ loc core' cur', parsePrec plainOps fuel k nodes ⟨toks ++ rest, core, cur⟩
        = .ok ((loc, nodes ++ compile t), ⟨rest, core', cur'⟩) ∧
      core'.symtab = core.symtab ∧ core'.ns = core.ns :=
  (all_levels t hwf hsym k).1 rest toks nodes core cur fuel hstop htoks rfl rfl hfuel

theorem fresh_of_empty {E : Env} (h : ∀ n, E.get n = none) (t : CExpr) : Fresh E t := by
  induction t with
  | num v => trivial
  | sym n => exact h n
  | sizeOf n => trivial
  | un o e ih => exact ih
  | bin o l r ihl ihr => exact ⟨ihl, ihr⟩
  | tern c a b ihc iha ihb => exact ⟨ihc, iha, ihb⟩

/-- `parse_render` under blunter hypotheses: the symbol table defines nothing, the fuel is
`46 * size t`. -/
theorem parse_render_empty (t : CExpr) (hwf : WF t) (k : Nat) (rest : List LTok)
    (hstop : Stops k rest) (toks : List LTok) (htoks : toks.map (·.tok) = render k t)
    (nodes : List Node) (core : CoreSt) (cur : Loc) (hsym : ∀ n, core.symtab.get n = none)
    (fuel : Nat) (hfuel : 46 * size t ≤ fuel) :
    ∃ loc core' cur', parsePrec plainOps fuel k nodes ⟨toks ++ rest, core, cur⟩
        = .ok ((loc, nodes ++ compile t), ⟨rest, core', cur'⟩) ∧
      core'.symtab = core.symtab ∧ core'.ns = core.ns :=
  parse_render t hwf k rest hstop toks htoks nodes core cur (fresh_of_empty hsym t) fuel
    (Nat.le_trans (fuelNeeded_le t k) hfuel)

/-- The `SStmt` counterpart of `parse_render` (`1 ≤ m ≤ 10`). -/
theorem parse_render_loop (t : CExpr) (hwf : WF t) (m : Nat) (h1 : 1 ≤ m) (h10 : m ≤ 10)
    (rest : List LTok) (hstop : Stops (m + 1) rest)
    (toks : List LTok) (htoks : toks.map (·.tok) = render m t)
    (nodes : List Node) (core : CoreSt) (cur : Loc) (hsym : Fresh core.symtab t)
    (fuel g : Nat) (hfuel : fuelNeeded t m + g ≤ fuel) :
    ∃ loc core' cur' fuel', g + 1 ≤ fuel' ∧ core'.symtab = core.symtab ∧ core'.ns = core.ns ∧
      parsePrec plainOps fuel m nodes ⟨toks ++ rest, core, cur⟩ =
        parseLoop plainOps fuel' m loc (nodes ++ compile t) ⟨rest, core', cur'⟩ :=
  (all_levels t hwf hsym m).2 h1 h10 rest toks nodes core cur fuel g hstop htoks rfl rfl hfuel

/-- `parse_render` at the entry point `Assembler::expr` (level 0, empty node list). -/
theorem parseExpr_render (t : CExpr) (hwf : WF t) (rest : List LTok) (hstop : Stops 0 rest)
    (toks : List LTok) (htoks : toks.map (·.tok) = render 0 t)
    (core : CoreSt) (cur : Loc) (hsym : Fresh core.symtab t)
    (fuel : Nat) (hfuel : fuelNeeded t 0 ≤ fuel) :
    ∃ loc core' cur', parseExpr plainOps fuel ⟨toks ++ rest, core, cur⟩
        = .ok ((loc, compile t), ⟨rest, core', cur'⟩) ∧
      core'.symtab = core.symtab ∧ core'.ns = core.ns := by
  have := parse_render t hwf 0 rest hstop toks htoks [] core cur hsym fuel hfuel
  simpa [parseExpr] using this

/-- **C04 (text to value).**  What `Assembler::expr` parses from a spelling of `render 0 t`
evaluates, under a valuation that `Agrees`, to the C value of `t`, or to "could not be solved"
where there is none (`parseExpr_render`, then `C04.eval_compile`). -/
theorem parseExpr_eval {lazy env vis σ} (H : C04.Agrees lazy env vis σ)
    (t : CExpr) (hwf : WF t) (rest : List LTok) (hstop : Stops 0 rest)
    (toks : List LTok) (htoks : toks.map (·.tok) = render 0 t)
    (core : CoreSt) (cur : Loc) (hsym : Fresh core.symtab t)
    (fuel : Nat) (hfuel : fuelNeeded t 0 ≤ fuel) :
    ∃ loc nodes core' cur', parseExpr plainOps fuel ⟨toks ++ rest, core, cur⟩
        = .ok ((loc, nodes), ⟨rest, core', cur'⟩) ∧
      evalList lazy env vis nodes [] = C04.resOf (denote σ t) := by
  obtain ⟨loc, core', cur', h, _, _⟩ :=
    parseExpr_render t hwf rest hstop toks htoks core cur hsym fuel hfuel
  exact ⟨loc, compile t, core', cur', h, C04.eval_compile H t⟩

section Examples

private def n (v : Int) : CExpr := .num v
private def nt (v : Nat) : Tok := .num v
private def sy (s : String) : Tok := .sym s

/-- Run `Assembler::expr` on a token list (all locations default) followed by a newline. -/
private def run (ts : List Tok) : Option (List Node × List Tok) :=
  match parseExpr plainOps 200 ⟨(ts ++ [Tok.newline]).map (⟨·, {}⟩), {}, {}⟩ with
  | .ok ((_, ns), s) => some (ns, s.toks.map (·.tok))
  | .error _ => none

/-- `1 + 2 * 3` -/
private def t1 : CExpr := .bin .add (n 1) (.bin .mul (n 2) (n 3))
/-- `(1 + 2) * 3` -/
private def t2 : CExpr := .bin .mul (.bin .add (n 1) (n 2)) (n 3)
/-- `- (4 - 5) - 6` -/
private def t3 : CExpr := .bin .sub (.un .neg (.bin .sub (n 4) (n 5))) (n 6)
/-- `4 - (5 - 6)`: a right operand of the same level keeps its parentheses -/
private def t4 : CExpr := .bin .sub (n 4) (.bin .sub (n 5) (n 6))
/-- `4 - 5 - 6`: a left operand of the same level needs none -/
private def t5 : CExpr := .bin .sub (.bin .sub (n 4) (n 5)) (n 6)
/-- `1 < 2 ? 3 : 4 | 5` -/
private def t6 : CExpr := .tern (.bin .lt (n 1) (n 2)) (n 3) (.bin .bor (n 4) (n 5))
/-- `(1 ? 2 : 3) ? <x : @sizeof y` -/
private def t7 : CExpr := .tern (.tern (n 1) (n 2) (n 3)) (.un .lo (.sym "x")) (.sizeOf "y")

example : render 0 t1 = [nt 1, sy "Plus", nt 2, sy "Star", nt 3] := rfl
example : render 0 t2 =
    [sy "ParenOpen", nt 1, sy "Plus", nt 2, sy "ParenClose", sy "Star", nt 3] := rfl
example : render 0 t3 =
    [sy "Minus", sy "ParenOpen", nt 4, sy "Minus", nt 5, sy "ParenClose", sy "Minus", nt 6] := rfl
example : render 0 t4 =
    [nt 4, sy "Minus", sy "ParenOpen", nt 5, sy "Minus", nt 6, sy "ParenClose"] := rfl
example : render 0 t5 = [nt 4, sy "Minus", nt 5, sy "Minus", nt 6] := rfl
example : render 0 t6 =
    [nt 1, sy "LessThan", nt 2, sy "Question", nt 3, sy "Colon", nt 4, sy "Pipe", nt 5] := rfl
example : render 0 t7 =
    [sy "ParenOpen", nt 1, sy "Question", nt 2, sy "Colon", nt 3, sy "ParenClose", sy "Question",
     sy "LessThan", .label .global "x", sy "Colon", .dir "SizeOf", .label .global "y"] := rfl

example : run (render 0 t1) = some (compile t1, [.newline]) := by decide +kernel
example : run (render 0 t2) = some (compile t2, [.newline]) := by decide +kernel
example : run (render 0 t3) = some (compile t3, [.newline]) := by decide +kernel
example : run (render 0 t4) = some (compile t4, [.newline]) := by decide +kernel
example : run (render 0 t5) = some (compile t5, [.newline]) := by decide +kernel
example : run (render 0 t6) = some (compile t6, [.newline]) := by decide +kernel
example : run (render 0 t7) = some (compile t7, [.newline]) := by decide +kernel

/-- The parentheses matter: without them `4 - 5 - 6` is the other tree. -/
example : compile t4 ≠ compile t5 := by decide

example : WF t3 ∧ Fresh [] t7 ∧ Stops 0 [⟨.newline, {}⟩] :=
  ⟨by simp [WF, t3, n], by simp [Fresh, t7, n, Env.get], stops_of_not_sym _ _ _ (by simp)⟩

/-- The theorem applied: its hypotheses are satisfiable (fuel 200 ≥ `fuelNeeded t6 0` = 120). -/
example : ∃ loc core' cur',
    parseExpr plainOps 200 ⟨(render 0 t6).map (⟨·, {}⟩) ++ [⟨.newline, {}⟩], {}, {}⟩
      = .ok ((loc, compile t6), ⟨[⟨.newline, {}⟩], core', cur'⟩) ∧
    core'.symtab = [] ∧ core'.ns = none :=
  parseExpr_render t6 (by simp [WF, t6, n]) _ (stops_of_not_sym _ _ _ (by simp)) _
    (by simp [Function.comp_def]) {} {} (by simp [Fresh, t6, n]) 200 (by decide)

end Examples

#print axioms parse_render
#print axioms parse_render_empty
#print axioms parse_render_loop
#print axioms parseExpr_render
#print axioms parseExpr_eval
#print axioms render_eq
#print axioms lookup_bin
#print axioms lookup_un

end Az65.Thm.C04Parse
