/-
What the three ISA files (`IsaZ80`, `IsaSm83`, `IsaMos6502`) share: the `x/y/z` fields of an opcode byte,
lists of bytes, and the shape of `expected`.
-/
namespace Az65.Thm.Isa

theorem xyz_fields {x y z : Nat} (hy : y < 8) (hz : z < 8) :
    (64 * x + 8 * y + z) / 64 = x ∧ (64 * x + 8 * y + z) / 8 % 8 = y ∧ (64 * x + 8 * y + z) % 8 = z := by
  omega

def Bytes (l : List Nat) : Prop := ∀ b ∈ l, b < 256

@[simp] theorem bytes_nil : Bytes [] := by simp [Bytes]
@[simp] theorem bytes_cons {b : Nat} {l : List Nat} : Bytes (b :: l) ↔ b < 256 ∧ Bytes l := by simp [Bytes]
@[simp] theorem bytes_append {l m : List Nat} : Bytes (l ++ m) ↔ Bytes l ∧ Bytes m := by
  simp only [Bytes, List.forall_mem_append]

/-- `expected` of each of the three Specs has this shape: a read, then a guard. -/
theorem bind_guard_eq_some {α β : Type} {o : Option α} {p : α → Bool} {f : α → β} {b : β} :
    (o.bind fun a => if p a = true then some (f a) else none) = some b ↔
      ∃ a, o = some a ∧ p a = true ∧ f a = b := by
  cases o with
  | none => simp
  | some a => by_cases h : p a = true <;> simp [h]

end Az65.Thm.Isa
