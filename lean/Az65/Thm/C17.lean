import Az65.Model.CharReader
/-
C17 — source is decoded as UTF-8 however reads are chunked; read faults fail the run.

The Spec decoder is stable under extension (`decodeFirst_append`): a window that holds a complete
or an invalid first character says so whatever follows.  So it does not matter how much each read
delivered, only that `fill` stops no earlier than that (`fill_spec`); then one `next` is one
`decodeFirst` on window ++ unread (`next_spec`).
-/
namespace Az65.Thm.C17
open Az65.Spec.Utf8 Az65.Model.CR

theorem seqLen_le (b : Nat) : seqLen b ≤ 4 := by
  unfold seqLen; (repeat' split) <;> omega

/-- What `scan` says about `w` it says about every extension of `w` — or `w` is too short. -/
theorem scan_append (b0 : Nat) (r : List Nat) : ∀ (k i : Nat) (w : List Nat),
    match scan b0 k i w with
    | .done => scan b0 k i (w ++ r) = .done ∧ k ≤ w.length
    | .bad => scan b0 k i (w ++ r) = .bad
    | .short => w.length < k := by
  intro k
  induction k with
  | zero => intro i w; simp [scan]
  | succ k ih =>
    intro i w
    cases w with
    | nil => simp [scan]
    | cons b t =>
      simp only [scan, List.cons_append]
      by_cases hs : stepOk b0 i b = true
      · simp only [hs, if_true]
        have := ih (i + 1) t
        split at this <;> simp_all
      · simp [hs]

/-- **The first character is decided by a prefix.**  A window that holds a complete or an invalid
first character says so whatever follows; one that does not is empty or shorter than four bytes. -/
theorem decodeFirst_append (w r : List Nat) :
    match decodeFirst w with
    | .ok c n => decodeFirst (w ++ r) = .ok c n ∧ n ≤ w.length ∧ 0 < n
    | .invalid => decodeFirst (w ++ r) = .invalid
    | .incomplete => w.length < 4
    | .empty => w = [] := by
  cases w with
  | nil => rfl
  | cons b t =>
    have hsc := scan_append b r (seqLen b - 1) 1 t
    have := seqLen_le b
    simp only [decodeFirst, List.cons_append]
    by_cases hz : seqLen b = 0
    · simp [hz]
    · simp only [hz, if_false]
      cases hs : scan b (seqLen b - 1) 1 t <;> simp only [hs] at hsc ⊢
      · have hlen : seqLen b ≤ (b :: t).length := by simp; omega
        rw [hsc.1]
        refine ⟨?_, hlen, by omega⟩
        rw [← List.cons_append, List.take_append_of_le_length hlen]
      · simp; omega
      · rw [hsc]

theorem want_pos (s : Src) {space : Nat} (h : 0 < space) : 0 < s.want space := by
  unfold Src.want; split <;> omega

/-- A pending fault lies within the input: the end of input cannot come first. -/
def FaultInInput (s : Src) : Prop := ∀ k, s.failAfter = some k → k ≤ s.unread.length

theorem faultInInput_of_none {s : Src} (h : s.failAfter = none) : FaultInInput s := fun k hk => by
  rw [h] at hk; cases hk

/-- A `read` moves a prefix of the unread bytes and keeps a pending fault pending; the prefix is
empty only at the end of an input without fault. -/
theorem read_spec (s : Src) {space : Nat} (hs : 0 < space) (hl : FaultInInput s) :
    match s.read space with
    | .fail => s.failAfter ≠ none
    | .bytes bs s' => bs ++ s'.unread = s.unread ∧ FaultInInput s' ∧
        (s'.failAfter = none ↔ s.failAfter = none) ∧
        (bs = [] → s.unread = [] ∧ s.failAfter = none) := by
  have hp := want_pos s hs
  unfold Src.read
  rcases hf : s.failAfter with _ | _ | k <;> dsimp only
  · refine ⟨List.take_append_drop .., faultInInput_of_none rfl, Iff.rfl,
      fun h => ⟨?_, rfl⟩⟩
    rcases List.take_eq_nil_iff.1 h with h | h
    · omega
    · exact h
  · nofun
  · have hk := hl _ hf
    refine ⟨List.take_append_drop .., ?_, by simp, fun h => ?_⟩
    · intro k' hk'
      cases hk'
      simp only [List.length_drop]; omega
    · rcases List.take_eq_nil_iff.1 h with h | h
      · omega
      · rw [h] at hk; simp at hk

/-- `fill` keeps the byte stream intact and a pending fault pending; it ends with a window that
decides its first character or is full, or at the end of an input without fault. -/
theorem fill_spec (f : Nat) (st : St) : FaultInInput st.src → 4 ≤ f + st.win.length →
    match fill f st with
    | .fail => st.src.failAfter ≠ none
    | .ok st' => st'.win ++ st'.src.unread = st.win ++ st.src.unread ∧ FaultInInput st'.src ∧
        (st'.src.failAfter = none ↔ st.src.failAfter = none) ∧
        (decided st'.win = false → st'.win.length < 4 →
          st'.src.unread = [] ∧ st'.src.failAfter = none) := by
  fun_induction fill f st with
  -- no fuel: then the window is full, by the bound on `f` (a read that does not end `fill` adds
  -- at least one byte to a window of at most four)
  | case1 st => exact fun hl hf => ⟨rfl, hl, Iff.rfl, fun _ _ => by omega⟩
  | case2 f st hd =>  -- the window decides its first character, or is full
    refine fun hl hf => ⟨rfl, hl, Iff.rfl, fun h1 h2 => ?_⟩
    simp [h1] at hd; omega
  | case3 f st hd hr =>  -- the read fails
    intro hl hf
    have := read_spec st.src (space := 4 - st.win.length) (by simp at hd; omega) hl
    rwa [hr] at this
  | case4 f st hd s hr =>  -- the read returns no byte: end of input
    intro hl hf
    have := read_spec st.src (space := 4 - st.win.length) (by simp at hd; omega) hl
    rw [hr] at this
    obtain ⟨hcat, hl', hiff, hnil⟩ := this
    refine ⟨by rw [← hcat]; rfl, hl', hiff, fun _ _ => ⟨?_, hiff.2 (hnil rfl).2⟩⟩
    rw [← (hnil rfl).1, ← hcat]; rfl
  | case5 f st hd bs s hne hr ih =>  -- the read returns bytes: once more, on a longer window
    intro hl hf
    have := read_spec st.src (space := 4 - st.win.length) (by simp at hd; omega) hl
    rw [hr] at this
    obtain ⟨hcat, hl', hiff, -⟩ := this
    have hlen : 0 < bs.length := List.length_pos_iff.2 hne
    have := ih hl' (by simp only [List.length_append]; omega)
    generalize fill f _ = r at this ⊢
    cases r with
    | fail => exact fun h => this (hiff.2 h)
    | ok st' =>
      obtain ⟨h1, h2, h3, h4⟩ := this
      exact ⟨by rw [h1, List.append_assoc, hcat], h2, h3.trans hiff, h4⟩

/-- One `next` = one step of the Spec decoder on the remaining byte stream, unless the fault
strikes; the end of input is reported only when no fault is pending. -/
theorem next_spec (st : St) (hl : FaultInInput st.src) :
    match next st with
    | .io => st.src.failAfter ≠ none
    | .eof => decodeFirst (st.win ++ st.src.unread) = .empty ∧ st.src.failAfter = none
    | .utf8 => decodeFirst (st.win ++ st.src.unread) = .incomplete ∨
        decodeFirst (st.win ++ st.src.unread) = .invalid
    | .char cp st' => ∃ len, decodeFirst (st.win ++ st.src.unread) = .ok cp len ∧
        st'.win ++ st'.src.unread = (st.win ++ st.src.unread).drop len ∧ FaultInInput st'.src ∧
        (st'.src.failAfter = none ↔ st.src.failAfter = none) := by
  have h := fill_spec 4 st hl (by omega)
  unfold next
  generalize fill 4 st = r at h ⊢
  cases r with
  | fail => exact h
  | ok st' =>
    obtain ⟨hcat, hl', hiff, hstop⟩ := h
    rw [← hcat]
    have hp := decodeFirst_append st'.win st'.src.unread
    unfold decided at hstop
    cases hd : decodeFirst st'.win <;> simp only [hd] at hp hstop ⊢
    case ok => exact ⟨_, hp.1, by rw [List.drop_append_of_le_length hp.2.1], hl', hiff⟩
    case incomplete =>
      obtain ⟨hu, -⟩ := hstop trivial hp
      exact .inl (by rw [hu, List.append_nil, hd])
    case invalid => exact .inr hp
    case empty =>
      obtain ⟨hu, hn⟩ := hstop trivial (by rw [hp]; decide)
      exact ⟨by rw [hu, hp]; rfl, hiff.1 hn⟩

/-- Without a fault the run is the decoding of the byte stream, whatever the window holds.
`run` and `decodeAll` both report exhausted fuel as `.utf8` after the characters decoded so far, so
the equation holds at every fuel.  For the same reason `fault_never_eof` and `fault_fails` below
hold for free whenever the fuel runs out before the fault is reached: they say something only at
sufficient fuel (`bytes.length + 1` is; `fileChars` gives one more). -/
theorem run_nofault : ∀ (f : Nat) (st : St), st.src.failAfter = none →
    run f st = decodeAll f (st.win ++ st.src.unread) := by
  intro f
  induction f with
  | zero => intro st _; rfl
  | succ f ih =>
    intro st hf
    have h := next_spec st (faultInInput_of_none hf)
    unfold run decodeAll
    cases hn : next st <;> simp only [hn] at h ⊢
    · obtain ⟨len, hd, hcat, -, hiff⟩ := h
      rw [hd, ih _ (hiff.2 hf), hcat]
    · rw [h.1]
    · rcases h with h | h <;> rw [h]
    · exact absurd hf h

/-- `run_nofault` with the reader's invariant `st.win.length ≤ 4` as a further hypothesis, which the
proof does not use. -/
theorem run_eq_decodeAll : ∀ (f : Nat) (st : St), st.src.failAfter = none → st.win.length ≤ 4 →
    run f st = decodeAll f (st.win ++ st.src.unread) :=
  fun f st hf _ => run_nofault f st hf

/-- **C17 (chunking).**  For every byte string, every way of splitting it into reads (any script
of chunk sizes) and every fuel, the characters the reader Model produces from the start of the
string, and the way the stream ends, are exactly the UTF-8 decoding of the bytes by the Spec at
the same fuel: the script does not occur on the right. -/
theorem chars_eq_decode (bytes script : List Nat) (f : Nat) :
    run f (init bytes script none) = decodeAll f bytes :=
  run_nofault f (init bytes script none) rfl

/-- **C17 (faults).**  If a read fault is pending within the input, the run never ends as a
successful end of input: it ends with `.io` or with `.utf8` — an earlier UTF-8 diagnostic, or
exhausted fuel (see `run_nofault`). -/
theorem fault_never_eof : ∀ (f : Nat) (st : St) (k : Nat), st.src.failAfter = some k →
    k ≤ st.src.unread.length → (run f st).2 ≠ .eof := by
  intro f
  induction f with
  | zero => intro st k _ _; simp [run]
  | succ f ih =>
    intro st k hf hk
    have h := next_spec st fun k' hk' => by rw [hf] at hk'; cases hk'; exact hk
    unfold run
    cases hn : next st <;> simp only [hn] at h ⊢
    · rename_i cp st'
      obtain ⟨len, -, -, hl', hiff⟩ := h
      cases hk' : st'.src.failAfter with
      | none => rw [hiff.1 hk'] at hf; cases hf
      | some k' => exact ih _ k' hk' (hl' k' hk')
    · rw [h.2] at hf; cases hf
    · simp
    · simp

theorem fault_fails (bytes script : List Nat) (k f : Nat) (hk : k ≤ bytes.length) :
    (run f (init bytes script (some k))).2 ≠ .eof :=
  fault_never_eof f _ k rfl (by simpa [init] using hk)

example : run 10 (init [0x61, 0x62, 0xC3, 0xA9] [4] none) = ([0x61, 0x62, 0xE9], .eof) := by decide
example : run 10 (init [0x61, 0x62, 0xC3, 0xA9] [1, 2, 1] none) = ([0x61, 0x62, 0xE9], .eof) := by decide
example : run 10 (init [0xC3, 0xA9, 0xF0, 0x9F, 0xA4, 0xA0, 0x31] [3, 1, 1] none) =
    ([0xE9, 0x1F920, 0x31], .eof) := by decide
example : (run 10 (init [0x61, 0x62, 0x63] [] (some 2))).2 = .io := by decide
example : decodeAll 10 [0x61, 0xFF] = ([0x61], .utf8) := by decide

end Az65.Thm.C17
