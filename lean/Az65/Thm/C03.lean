import Az65.Thm.IsaMos6502
import Az65.Thm.C03Forms.P0
import Az65.Thm.C03Forms.P1
import Az65.Thm.C03Forms.P2
import Az65.Thm.C03Forms.P3
import Az65.Thm.C03Forms.P4
import Az65.Thm.C03Forms.P5
import Az65.Thm.C03Forms.P6
import Az65.Thm.C03Forms.P7
/-
C03 — 6502 instructions assemble to the MOS encoding with the right addressing mode.

ISA-level theorems (for all operand values) are in `Az65/Thm/IsaMos6502.lean`; they are
re-exported here together with the tie between the *generated* decision tree
(`Az65/Gen/TreeMos6502.lean`, regenerated from src/mos6502/mod.rs on every run) and the Spec.
-/
namespace Az65.Thm.C03
open Az65 Az65.Spec Az65.Spec.Mos6502

def formsAgree : Bool := formsAgreeOn Mn.all

theorem slices_cover : Mn.all = slice 0 ++ slice 1 ++ slice 2 ++ slice 3 ++ slice 4 ++ slice 5 ++ slice 6 ++ slice 7 := by
  simp only [slice, Nat.reduceMul, List.drop_zero, ← List.take_add, Nat.reduceAdd]
  exact (List.take_of_length_le (by decide)).symm

theorem formsAgreeOn_append (a b : List Mn) : formsAgreeOn (a ++ b) = (formsAgreeOn a && formsAgreeOn b) := by
  simp [formsAgreeOn, List.all_append]

/-- **C03 (generated tree = Spec on every form).**  For every mnemonic, every operand spelling
(legal or not for that mnemonic), every boundary value and both "known now" / "defined later",
the decision tree regenerated from the current source — run by the model interpreter and the model
linker — produces exactly the bytes the MOS Spec prescribes, and rejects exactly what the Spec
rejects.  Checked by kernel evaluation over the whole finite table (13 104 runs, in 8 slices). -/
theorem tree_agrees_spec_on_forms : formsAgree = true := by
  unfold formsAgree
  rw [slices_cover]
  simp only [formsAgreeOn_append, forms_slice_0, forms_slice_1, forms_slice_2, forms_slice_3,
    forms_slice_4, forms_slice_5, forms_slice_6, forms_slice_7, Bool.and_self]

theorem tree_agrees_spec (mn : Mn) (v : Int) (md : Mode) (known : Bool)
    (hmn : mn ∈ Mn.all) (hv : v ∈ sampleValues) (hmd : md ∈ spellings v) :
    asmMode 0x1000 mn.name md known = Mos6502.expected 0x1000 mn.name md known := by
  have h := tree_agrees_spec_on_forms
  simp only [formsAgree, formsAgreeOn, List.all_eq_true] at h
  have := h mn hmn v hv md hmd known (by cases known <;> simp)
  simpa using this

/-- Every row of `legal`, in the Spec's own spelling at a representative operand value of its mode (`$1010`
is within branch range of `$1000`), comes out of the generated tree as bytes that start with the row's
opcode. -/
def reachAll : Bool :=
  legal.all fun row =>
    let v : Int := match row.2.1 with
      | .relative => 0x1010
      | .zeroPage | .zeroPageX | .zeroPageY | .immediate | .indirectX | .indirectY => 0x42
      | .implied | .accumulator => 0
      | _ => 0x1234
    let i : Instr := ⟨row.1, row.2.1, v⟩
    let w := write i
    (asmMode 0x1000 w.1 w.2 true).bind List.head? == some row.2.2

/-- **C03 (all 151 legal opcodes are reachable from source)**, through the generated tree: `reachAll`, by
kernel evaluation. 151 is `legal_count`. -/
theorem all_151_opcodes_reachable : reachAll = true := by decide +kernel

export Az65.Thm.IsaMos6502 (decode_enc zero_page_rule absolute_rule branch_rule only_legal
  all_legal_reachable unknown_selects_absolute direct_out_of_range_rejected)

example : asmMode 0 "lda" (.direct 0x10) true = some [0xA5, 0x10] := by decide +kernel
example : asmMode 0 "lda" (.direct 0x10) false = some [0xAD, 0x10, 0x00] := by decide +kernel
example : asmMode 0 "lda" (.direct 0x10000) false = none := by decide +kernel
example : asmMode 0x10 "bne" (.direct 0x10) true = some [0xD0, 0xFE] := by decide +kernel

end Az65.Thm.C03
