import Az65.Model.Export
/-
C15 — the command line reports failure as failure and never leaves partial output.
Theorems about `Cli.main`, the mirror of `main` in src/bin/az65.rs (phases are parameters: the
option grammar, process exit codes and file creation are clap / OS behaviour tied by the
correspondence run of the real binary).
-/
namespace Az65.Thm.C15
open Az65 Az65.Cli

def allTrue : List Bool → Bool
  | [] => true
  | b :: r => b && allTrue r

def allOk (toFile : Bool) (p : Phases) : Prop :=
  (toFile = true → p.outputOpens = true) ∧ (toFile = true → p.outputWrites = true) ∧
  p.searchPathsOk = true ∧ p.assemble = true ∧ p.link.isSome = true ∧ allTrue p.exports = true

theorem takeWhile_lt (l : List Bool) : (l.takeWhile id).length < l.length ↔ allTrue l = false := by
  induction l with
  | nil => simp [allTrue]
  | cons b r ih =>
    cases b
    · simp [List.takeWhile, allTrue]
    · simp only [List.takeWhile, id, List.length_cons, allTrue, Bool.true_and]
      rw [← ih]; omega

/-- **C15 (exit status).**  The exit status is 0 exactly when opening (and writing) the output, every search
path, assembling, linking and every requested export succeeded. -/
theorem exit_zero_iff (toFile : Bool) (p : Phases) : (main toFile p).exit = 0 ↔ allOk toFile p := by
  unfold allOk
  -- `fun_cases main` gives one goal per exit of `Cli.main`, in its order: `-o` file not created /
  -- a search path missing / assembling failed / linking failed / image not written to the `-o`
  -- file / an export failed / success.  `+zetaDelta`: `main`'s `let`s arrive as local definitions.
  fun_cases main toFile p <;> simp_all +zetaDelta [takeWhile_lt]

/-- A message is printed on standard error exactly when the run fails. -/
theorem message_iff_failure (toFile : Bool) (p : Phases) :
    (main toFile p).message = true ↔ (main toFile p).exit ≠ 0 := by
  fun_cases main toFile p <;> simp

/-- **C15 (no partial output).**  If assembling or linking fails, nothing at all is written to
standard output, the `-o` file (if it was created) holds no bytes, and no export file is produced. -/
theorem no_partial_output (toFile : Bool) (p : Phases) (h : p.assemble = false ∨ p.link = none) :
    (main toFile p).stdout = [] ∧ ((main toFile p).ofile = none ∨ (main toFile p).ofile = some []) ∧
    (main toFile p).exportsWritten = 0 := by
  fun_cases main toFile p <;> cases toFile <;> simp_all +zetaDelta

/-- **C15 (-o equals stdout).**  On success the bytes written with `-o FILE` are identical to
those written to standard output without it. -/
theorem o_equals_stdout (p : Phases) (h : allOk true p) :
    (main true p).ofile = some (main false p).stdout := by
  obtain ⟨h1, hw, h2, h3, h4, h5⟩ := h
  unfold main
  cases hl : p.link with
  | none => simp [hl] at h4
  | some img =>
    have hn : ¬ (p.exports.takeWhile id).length < p.exports.length := by
      intro hh; have := (takeWhile_lt _).1 hh; simp [this] at h5
    simp [h1 rfl, hw rfl, h2, h3, hn]

theorem o_keeps_stdout_empty (p : Phases) : (main true p).stdout = [] := by
  fun_cases main true p <;> simp +zetaDelta

/-- A run writes no export file (it failed before reaching them), or exactly those before the first
export that fails. -/
theorem exports_written (toFile : Bool) (p : Phases) :
    (main toFile p).exportsWritten = 0 ∨
      (main toFile p).exportsWritten = (p.exports.takeWhile id).length := by
  fun_cases main toFile p <;> simp +zetaDelta

theorem exports_prefix (toFile : Bool) (p : Phases) :
    (main toFile p).exportsWritten ≤ p.exports.length := by
  have := (List.takeWhile_prefix (l := p.exports) id).length_le
  rcases exports_written toFile p with h | h <;> omega

example : main false { assemble := true, link := some [1, 2], exports := [true] } = ⟨0, [1, 2], none, false, 1⟩ := by decide
example : main true { assemble := true, link := none } = ⟨1, [], some [], true, 0⟩ := by decide
example : main true { assemble := true, link := some [7], exports := [true, false, true] } = ⟨1, [], some [7], true, 1⟩ := by decide

example : main true { outputWrites := false, assemble := true, link := some [7], exports := [true] } = ⟨1, [], some [], true, 0⟩ := by decide

end Az65.Thm.C15

