import Az65.Lemmas.ExprBridge
import Az65.Lemmas.AbsFrame
/-
C16 — struct fields are prefix sums of declared sizes; `@sizeof` returns the declared size.

The Spec is the layout of a member list whose sizes are known integers (`M`, `fields`, `total`, with
the 32-bit wrapping of the source).  A member list of the model denotes such a list by evaluating
each operand where it is written, that is in the state the members before it leave (`denote`), which
is also why a size may use an earlier field (`field_refs_earlier`).  `members_layout` says the table
then holds the Spec's offsets and sizes; `struct_total` adds the struct's own name.  `@sizeof` goes
through the `@SIZEOF` metadata string: the size is stored as decimal text and parsed back
(`parseI32_toString`), and the node is never replaced when an expression is read, so it makes no
difference whether the struct is declared before or after the use (`sizeof_before_or_after`).
-/
namespace Az65.Thm.C16
open Az65 Az65.Abs Az65.AbsFrame Az65.LinkLemmas

/-- A struct member with its size / padding / alignment already a known integer. -/
inductive M where
  | field (name : String) (size : Int)
  | pad (n : Int)
  | align (a : Int)
  deriving Repr

/-- 32-bit two's-complement wrap (`i32::wrapping_add`). -/
abbrev wrap (x : Int) : Int := Spec.wrap x

/-- Distance from `s` up to the next multiple of `a` (`0` if `s` is one). -/
def gap (s a : Int) : Int := (a - s % a) % a

def stepM (s : Int) : M → Int
  | .field _ sz => wrap (s + sz)
  | .pad p => wrap (s + p)
  | .align a => wrap (s + gap s a)

def total : List M → Int → Int
  | [], s => s
  | m :: r, s => total r (stepM s m)

/-- Each field with its offset (the running size when it is reached) and its declared size. -/
def fields : List M → Int → List (String × Int × Int)
  | [], _ => []
  | .field n sz :: r, s => (n, s, sz) :: fields r (wrap (s + sz))
  | m :: r, s => fields r (stepM s m)

def layout (ms : List M) (s : Int) : List (String × Int) × Int :=
  ((fields ms s).map fun x => (x.1, x.2.1), total ms s)

theorem total_append (a b : List M) : ∀ s, total (a ++ b) s = total b (total a s) := by
  induction a with
  | nil => intro s; rfl
  | cons m r ih => intro s; simp only [List.cons_append, total]; exact ih _

theorem fields_cons (m : M) (r : List M) (s : Int) :
    fields (m :: r) s = (match m with | .field n sz => [(n, s, sz)] | _ => []) ++ fields r (stepM s m) := by
  cases m <;> simp [fields, stepM]

theorem fields_append (a b : List M) : ∀ s, fields (a ++ b) s = fields a s ++ fields b (total a s) := by
  induction a with
  | nil => intro s; rfl
  | cons m r ih =>
    intro s
    rw [List.cons_append, fields_cons, fields_cons, ih, List.append_assoc]; rfl

/-- **Prefix sums.** The offset of a field is the total size of the members that precede it. -/
theorem field_offset_is_prefix_total (pre post : List M) (n : String) (sz s : Int) :
    (n, total pre s, sz) ∈ fields (pre ++ .field n sz :: post) s := by
  rw [fields_append]; simp [fields]

theorem gap_nonneg (s a : Int) (ha : 0 < a) : 0 ≤ gap s a :=
  Int.emod_nonneg _ (Int.ne_of_gt ha)

theorem gap_lt (s a : Int) (ha : 0 < a) : gap s a < a := Int.emod_lt_of_pos _ ha

theorem add_gap_emod (s a : Int) : (s + gap s a) % a = 0 := by
  unfold gap
  rw [Int.add_emod_emod]
  have h : s + (a - s % a) = a + a * (s / a) := by
    rw [Int.emod_def]; generalize a * (s / a) = t; omega
  rw [h, Int.add_mul_emod_self_left, Int.emod_self]

theorem gap_eq_zero_of_aligned (s a : Int) (h : s % a = 0) : gap s a = 0 := by
  unfold gap; rw [h, Int.sub_zero, Int.emod_self]

/-- `Eff.structPadding` is the Spec gap (for an alignment the model accepts, i.e. `≥ 2`). -/
theorem structPadding_spec (size al : I32) (h : 2 ≤ al.toInt) :
    (Eff.structPadding size al).toInt = gap size.toInt al.toInt := by
  have ha := Bridge.inR_toInt al
  have h0 := gap_nonneg size.toInt al.toInt (by omega)
  have h1 := gap_lt size.toInt al.toInt (by omega)
  unfold Eff.structPadding
  show (BitVec.ofInt 32 (gap size.toInt al.toInt)).toInt = _
  apply Bridge.toInt_ofInt_of_inR
  unfold Bridge.InR at *; omega

/-- The size after a struct `@align` is a multiple of the alignment (when it does not wrap). -/
theorem structPadding_aligned (size al : I32) (h : 2 ≤ al.toInt)
    (hw : size.toInt + gap size.toInt al.toInt < 2147483648) :
    (size + Eff.structPadding size al).toInt % al.toInt = 0 := by
  have hs := (Bridge.inR_toInt size).1
  have h0 := gap_nonneg size.toInt al.toInt (by omega)
  rw [BitVec.toInt_add, structPadding_spec size al h, Int.bmod_eq_of_le (by omega) hw]
  exact add_gap_emod _ _

/-- The value a member's operand has where it is written, that is read and evaluated in the state
reached after the members before it; `none` if it cannot be computed there. -/
def valOf (c : CoreSt) (e : List Node) : Option I32 :=
  match ev (resolve c e).1 (resolve c e).2 with
  | .ok (some v) => some v
  | _ => none

/-- The Spec member a model member denotes in state `c`.  The default of `getD` is never used on an
accepted member, whose operand has a value (`member_size`). -/
def mval (c : CoreSt) : Member → M
  | .field n e => .field n ((valOf c e).getD 0).toInt
  | .pad e => .pad ((valOf c e).getD 0).toInt
  | .align e => .align ((valOf c e).getD 0).toInt

/-- The Spec member list a model member list denotes: each operand evaluated in the state that
the members before it produce. -/
def denote (sname : String) : CoreSt → I32 → List Member → List M
  | _, _, [] => []
  | c, size, m :: r =>
    match member sname c size m with
    | .error _ => []
    | .ok (c', size') => mval c m :: denote sname c' size' r

abbrev key (sname f : String) : String := sname ++ "." ++ f

theorem valOf_eq_some {c : CoreSt} {e : List Node} {v : I32}
    (h : ev (resolve c e).1 (resolve c e).2 = .ok (some v)) : valOf c e = some v := by
  unfold valOf; rw [h]

theorem valOf_of_evaluate {c : CoreSt} {e : List Node} {v : I32}
    (h : evaluate c.symtab (e.map c.inline) = .ok v) : valOf c e = some v := by
  unfold valOf ev evalOpt CoreSt.eval
  rw [resolve_snd, resolve_symtab, h]

theorem member_size {sname : String} {c c' : CoreSt} {size size' : I32} {m : Member}
    (h : member sname c size m = .ok (c', size')) : size'.toInt = stepM size.toInt (mval c m) := by
  cases m with
  | field n e =>
    obtain ⟨fs, hv, _, _, rfl⟩ := member_field_ok h
    simp only [mval, valOf_eq_some hv, Option.getD_some, stepM]
    exact BitVec.toInt_add ..
  | pad e =>
    obtain ⟨p, hv, _, rfl⟩ := member_pad_ok h
    simp only [mval, valOf_eq_some hv, Option.getD_some, stepM]
    exact BitVec.toInt_add ..
  | align e =>
    obtain ⟨a, hv, ha, _, rfl⟩ := member_align_ok h
    simp only [mval, valOf_eq_some hv, Option.getD_some, stepM]
    rw [BitVec.toInt_add, structPadding_spec size a (by omega)]; rfl

theorem member_field_get {sname : String} {c c' : CoreSt} {size size' : I32} {f : String}
    {e : List Node} (h : member sname c size (.field f e) = .ok (c', size')) :
    ∃ fs, valOf c e = some fs ∧
      c'.symtab.get (key sname f) = some ⟨.val size, [("@SIZEOF", toString fs.toInt)]⟩ := by
  obtain ⟨fs, hv, _, rfl, _⟩ := member_field_ok h
  exact ⟨fs, valOf_eq_some hv, CoreSt.insertWithMeta_get_self ..⟩

theorem members_append {sname : String} {a b : List Member} {c : CoreSt} {size : I32}
    {r : CoreSt × I32} (h : members sname c size (a ++ b) = .ok r) :
    ∃ c1 s1, members sname c size a = .ok (c1, s1) ∧ members sname c1 s1 b = .ok r := by
  induction a generalizing c size with
  | nil => exact ⟨c, size, rfl, h⟩
  | cons m a ih =>
    obtain ⟨c1, s1, hm, hr⟩ := members_cons h
    obtain ⟨c2, s2, ha, hb⟩ := ih hr
    exact ⟨c2, s2, by simp only [members, hm, ha], hb⟩

def fieldNames : List Member → List String
  | [] => []
  | .field n _ :: r => n :: fieldNames r
  | _ :: r => fieldNames r

theorem mem_fieldNames {n : String} {e : List Node} {ms : List Member}
    (h : Member.field n e ∈ ms) : n ∈ fieldNames ms := by
  induction ms with
  | nil => cases h
  | cons m r ih =>
    rcases List.mem_cons.1 h with rfl | hr
    · exact List.mem_cons_self
    · cases m <;> simp [fieldNames, ih hr]

/-- **Struct layout.** If the body `ms` of a struct is accepted, then - with `denote sname c size ms`
the Spec list it denotes, each size / padding / alignment operand at the integer value it has where it
is written - the final running size is the Spec `total` of that list from `size`, and every field `f`
among its `fields` is in the table as `sname.f` with the Spec offset (the prefix sum of what precedes
it) as its value and its declared size as its `@SIZEOF` entry. -/
theorem members_layout (sname : String) : ∀ (ms : List Member) (c c' : CoreSt) (size size' : I32),
    members sname c size ms = .ok (c', size') →
    size'.toInt = total (denote sname c size ms) size.toInt ∧
    ∀ f off d, (f, off, d) ∈ fields (denote sname c size ms) size.toInt →
      c'.symtab.get (key sname f) =
        some ⟨.val (BitVec.ofInt 32 off), [("@SIZEOF", toString d)]⟩ := by
  intro ms
  induction ms with
  | nil => intro c c' size size' h; cases h; exact ⟨rfl, nofun⟩
  | cons m r ih =>
    intro c c' size size' h
    obtain ⟨c1, s1, hm, hr⟩ := members_cons h
    obtain ⟨iht, ihf⟩ := ih c1 c' s1 size' hr
    have hden : denote sname c size (m :: r) = mval c m :: denote sname c1 s1 r := by
      simp only [denote, hm]
    rw [hden, total, fields_cons, ← member_size hm]
    refine ⟨iht, fun f off d hmem => ?_⟩
    rcases List.mem_append.1 hmem with hmem | hmem
    · cases m with
      | field n e =>
        obtain ⟨fs, hv, hget⟩ := member_field_get hm
        simp only [mval, hv, Option.getD_some, List.mem_singleton, Prod.mk.injEq] at hmem
        obtain ⟨rfl, rfl, rfl⟩ := hmem
        rw [members_mono hr hget, BitVec.ofInt_toInt]
      | pad e => cases hmem
      | align e => cases hmem
    · exact ihf f off d hmem

theorem members_layout' (sname : String) (ms : List Member) (c c' : CoreSt) (size size' : I32)
    (h : members sname c size ms = .ok (c', size')) :
    size'.toInt = (layout (denote sname c size ms) size.toInt).2 ∧
    ∀ f off, (f, off) ∈ (layout (denote sname c size ms) size.toInt).1 →
      ∃ d : Int, c'.symtab.get (key sname f) =
        some ⟨.val (BitVec.ofInt 32 off), [("@SIZEOF", toString d)]⟩ := by
  obtain ⟨h1, h2⟩ := members_layout sname ms c c' size size' h
  refine ⟨h1, ?_⟩
  intro f off hmem
  simp only [layout, List.mem_map] at hmem
  obtain ⟨⟨f', off', d⟩, hx, heq⟩ := hmem
  simp only [Prod.mk.injEq] at heq
  obtain ⟨rfl, rfl⟩ := heq
  exact ⟨d, h2 _ _ _ hx⟩

def ofM : M → Member
  | .field n sz => .field n [.val (BitVec.ofInt 32 sz)]
  | .pad p => .pad [.val (BitVec.ofInt 32 p)]
  | .align a => .align [.val (BitVec.ofInt 32 a)]

def M.InR : M → Prop
  | .field _ sz => Bridge.InR sz
  | .pad p => Bridge.InR p
  | .align a => Bridge.InR a

theorem valOf_val (c : CoreSt) (v : I32) : valOf c [.val v] = some v :=
  valOf_of_evaluate (evaluate_val c.symtab v)

theorem mval_ofM (c : CoreSt) (x : M) (h : x.InR) : mval c (ofM x) = x := by
  cases x <;> simp only [ofM, mval, valOf_val, Option.getD_some] <;>
    rw [Bridge.toInt_ofInt_of_inR h]

theorem denote_const (sname : String) : ∀ (vs : List M) (c c' : CoreSt) (size size' : I32),
    (∀ x ∈ vs, x.InR) → members sname c size (vs.map ofM) = .ok (c', size') →
    denote sname c size (vs.map ofM) = vs := by
  intro vs
  induction vs with
  | nil => intros; rfl
  | cons x r ih =>
    intro c c' size size' hin h
    rw [List.map_cons] at h ⊢
    obtain ⟨c1, s1, hm, hr⟩ := members_cons h
    simp only [denote, hm]
    rw [mval_ofM c x (hin x (List.mem_cons_self ..)),
      ih c1 c' s1 size' (fun y hy => hin y (List.mem_cons_of_mem _ hy)) hr]

/-- **Struct layout, literal operands.** For a struct body whose operands are the literals of the
Spec member list `vs`, the stored offsets and the final size are exactly `layout vs`. -/
theorem members_layout_const (sname : String) (vs : List M) (c c' : CoreSt) (size size' : I32)
    (hin : ∀ x ∈ vs, x.InR) (h : members sname c size (vs.map ofM) = .ok (c', size')) :
    size'.toInt = total vs size.toInt ∧
    ∀ f off d, (f, off, d) ∈ fields vs size.toInt →
      c'.symtab.get (key sname f) =
        some ⟨.val (BitVec.ofInt 32 off), [("@SIZEOF", toString d)]⟩ := by
  have := members_layout sname (vs.map ofM) c c' size size' h
  rw [denote_const sname vs c c' size size' hin h] at this
  exact this

/-- **Duplicate field rejected.** A struct body that declares the same field name twice is never
accepted (whatever else it contains). -/
theorem duplicate_field_rejected (sname f : String) (e1 e2 : List Node)
    (pre mid post : List Member) (c : CoreSt) (size : I32) :
    ∃ er, members sname c size (pre ++ .field f e1 :: (mid ++ .field f e2 :: post)) = .error er := by
  cases h : members sname c size (pre ++ .field f e1 :: (mid ++ .field f e2 :: post)) with
  | error er => exact ⟨er, rfl⟩
  | ok p =>
    -- the second declaration finds the key entered by the first
    obtain ⟨c1, s1, _, h1⟩ := members_append h
    obtain ⟨c2, s2, hf1, h2⟩ := members_cons h1
    obtain ⟨c3, s3, hmid, h3⟩ := members_append h2
    obtain ⟨c4, s4, hf2, _⟩ := members_cons h3
    obtain ⟨_, _, hget⟩ := member_field_get hf1
    obtain ⟨_, _, habs, _⟩ := member_field_ok hf2
    cases habs.symm.trans (members_mono hmid hget)

theorem key_ne_name (sname f : String) : key sname f ≠ sname := by
  intro h
  have := congrArg String.length h
  simp only [key, String.length_append] at this
  have h1 : ".".length = 1 := by decide
  omega

/-- **Struct total.** An accepted `@struct` stores the struct's own name with the Spec total of
its members as value (and no metadata), and every field with its Spec offset and declared size. -/
theorem struct_total {s s' : State} {name : String} {ms : List Member}
    (h : exec s (.struct name ms) = .ok s') :
    let vs := denote name { s.core with ns := some name } 0 ms
    (∃ size : I32, s'.core.symtab.get name = some ⟨.val size, []⟩ ∧ size.toInt = total vs 0) ∧
    (∀ f off d, (f, off, d) ∈ fields vs 0 →
      s'.core.symtab.get (key name f) =
        some ⟨.val (BitVec.ofInt 32 off), [("@SIZEOF", toString d)]⟩) := by
  intro vs
  obtain ⟨_, c1, size, hm, rfl⟩ := exec_ok h
  obtain ⟨h1, h2⟩ := members_layout name ms _ c1 0 size hm
  have z : (0 : I32).toInt = 0 := by decide
  rw [z] at h1 h2
  refine ⟨⟨size, ?_, h1⟩, ?_⟩
  · simp [CoreSt.insertWithMeta_get_self]
  · intro f off d hmem
    show (CoreSt.insertWithMeta _ name _ _).symtab.get (key name f) = _
    rw [CoreSt.insertWithMeta_get_of_ne _ _ _ (Ne.symm (key_ne_name name f))]
    exact h2 f off d hmem

/-- **Scope restored.** The label scope in force before `@struct` is back after `@endstruct`, and
the segment kind is untouched (inside the body the scope is the struct's name: `scope_inside`). -/
theorem scope_restored {s s' : State} {name : String} {ms : List Member}
    (h : exec s (.struct name ms) = .ok s') : s'.core.ns = s.core.ns ∧ s'.code = s.code := by
  obtain ⟨_, c1, size, hm, rfl⟩ := exec_ok h
  exact ⟨rfl, rfl⟩

theorem scope_inside {s s' : State} {name : String} {ms : List Member}
    (h : exec s (.struct name ms) = .ok s') :
    ∃ c1 size, members name { s.core with ns := some name } 0 ms = .ok (c1, size) ∧
      c1.ns = some name := by
  obtain ⟨_, c1, size, hm, _⟩ := exec_ok h
  obtain ⟨_, _, rfl⟩ := (members_frame hm).1
  exact ⟨_, size, hm, rfl⟩

/-- **Empty struct.** `@struct S @endstruct` is accepted when `S` is new and defines `S = 0`. -/
theorem empty_struct (s : State) (name : String) (hn : s.core.symtab.get name = none) :
    ∃ s', exec s (.struct name []) = .ok s' ∧ s'.core.symtab.get name = some ⟨.val 0, []⟩ := by
  refine ⟨{ s with core := ({ s.core with ns := s.core.ns }).insertWithMeta name (.val 0) [] }, ?_, ?_⟩
  · simp [exec, hn, members]
  · simp [CoreSt.insertWithMeta_get_self]

theorem struct_frame {s s' : State} {name : String} {ms : List Member}
    (h : exec s (.struct name ms) = .ok s') (k : String) (hk : k ≠ name)
    (hf : ∀ n ∈ fieldNames ms, k ≠ key name n) : s'.core.symtab.get k = s.core.symtab.get k := by
  obtain ⟨_, c1, size, hm, rfl⟩ := exec_ok h
  show (CoreSt.insertWithMeta _ name _ _).symtab.get k = _
  rw [CoreSt.insertWithMeta_get_of_ne _ _ _ (Ne.symm hk)]
  exact ((members_frame hm).2 k).resolve_right fun ⟨_, n, _, hmem, hkn⟩ =>
    hf n (mem_fieldNames hmem) hkn

/-- On a digit string the model's digit loop is the core library's `Nat.ofDigitChars`. -/
theorem parseDigits_eq : ∀ (l : List Char), (∀ c ∈ l, c.isDigit = true) → ∀ acc : Nat,
    parseI32Digits l acc = some (Nat.ofDigitChars 10 l acc) := by
  intro l
  induction l with
  | nil => intro _ acc; rfl
  | cons c r ih =>
    intro h acc
    have hc : '0' ≤ c ∧ c ≤ '9' := by
      simpa [Char.isDigit, Char.le_def] using h c List.mem_cons_self
    rw [parseI32Digits, if_pos hc, ih (fun d hd => h d (List.mem_cons_of_mem _ hd)),
      Nat.ofDigitChars_cons, Nat.mul_comm]
    rfl

theorem parseDigits_toDigits (n : Nat) : parseI32Digits (Nat.toDigits 10 n) 0 = some n := by
  rw [parseDigits_eq _ fun _ => Nat.isDigit_of_mem_toDigits (by decide) (by decide),
    Nat.ofDigitChars_ten_toDigits]

/-- **Round trip.** The decimal text of any 32-bit signed value parses back to that value. -/
theorem parseI32_toString (n : Int) (h : Bridge.InR n) :
    parseI32 (toString n) = some (BitVec.ofInt 32 n) := by
  unfold Bridge.InR at h
  -- `toString` on `Int` is `Int.repr`: the digits of a natural number, `-` before those of `m + 1`
  cases n with
  | ofNat m =>
    show parseI32 (Nat.repr m) = _
    unfold parseI32
    have hp := parseDigits_toDigits m
    rw [Nat.toList_repr]
    cases hl : Nat.toDigits 10 m with
    | nil => exact absurd hl Nat.toDigits_ne_nil
    | cons c r =>
      rw [hl] at hp
      split
      · next heq => cases heq
      -- the digit loop accepted the first character: it is not a sign
      · next heq => cases heq; simp [parseI32Digits] at hp
      · next heq => cases heq; simp [parseI32Digits] at hp
      · rw [Int.ofNat_eq_natCast] at h ⊢
        rw [hp, BitVec.ofInt_natCast]
        exact if_pos (by omega)
  | negSucc m =>
    show parseI32 ("-" ++ Nat.repr (m + 1)) = _
    unfold parseI32
    rw [String.toList_append, Nat.toList_repr, show "-".toList = ['-'] from rfl,
      List.singleton_append]
    have hp := parseDigits_toDigits (m + 1)
    cases hl : Nat.toDigits 10 (m + 1) with
    | nil => exact absurd hl Nat.toDigits_ne_nil
    | cons c r =>
      rw [hl] at hp
      show (match parseI32Digits (c :: r) 0 with | some n => _ | none => _) = _
      rw [hp]
      exact if_pos (by omega)

/-- **`@sizeof` value.** On an entry whose `@SIZEOF` metadata is the decimal text of `n`,
`@sizeof` evaluates to `n`. -/
theorem sizeof_value (env : Env) (x : String) (sym : Sym) (n : Int) (h : Bridge.InR n)
    (hg : env.get x = some ⟨sym, [("@SIZEOF", toString n)]⟩) :
    sizeOfStep env x = .ok (BitVec.ofInt 32 n) := by
  unfold sizeOfStep
  rw [hg]
  have hp := parseI32_toString n h
  rw [Int.toString_eq_repr] at hp
  simp [List.find?, hp]

/-- The `@db` / `@dw` cases. -/
example : parseI32 "1" = some 1 := by decide
example : parseI32 "2" = some 2 := by decide
example : parseI32 (toString (-2147483648 : Int)) = some (BitVec.ofInt 32 (-2147483648)) :=
  parseI32_toString _ (by unfold Bridge.InR; omega)

theorem evaluate_sizeOf (env : Env) (x : String) : evaluate env [.sizeOf x] = sizeOfStep env x := by
  rw [evaluate_eq]
  simp only [evalList, Node.access]
  cases sizeOfStep env x <;> rfl

theorem evaluate_sizeOf_entry {env : Env} {x : String} {sym : Sym} {fs : I32}
    (h : env.get x = some ⟨sym, [("@SIZEOF", toString fs.toInt)]⟩) :
    evaluate env [.sizeOf x] = .ok fs := by
  rw [evaluate_sizeOf, sizeof_value env x sym fs.toInt (Bridge.inR_toInt fs) h, BitVec.ofInt_toInt]

/-- Right after a field `f` is declared, `@sizeof S.f` is the value of the size expression written
for `f` (as a 32-bit integer); the entry stays (`members_mono`, `struct_total`). -/
theorem sizeof_field {sname : String} {c c' : CoreSt} {size size' : I32} {f : String} {e : List Node}
    (h : member sname c size (.field f e) = .ok (c', size')) :
    ∃ fs, valOf c e = some fs ∧ evaluate c'.symtab [.sizeOf (key sname f)] = .ok fs := by
  obtain ⟨fs, hv, hget⟩ := member_field_get h
  exact ⟨fs, hv, evaluate_sizeOf_entry hget⟩

/-- **`@sizeof` before or after.** `@sizeof x` is never folded when the expression is read
(`resolve` keeps the node), and its value depends on the table only through the entry of `x`:
evaluated at once (struct already declared) or by the link step (struct declared later), it gives
the same result whenever the two tables agree on `x`.  That the result is the declared size is
`sizeof_value`. -/
theorem sizeof_before_or_after (c : CoreSt) (x : String) (env1 env2 : Env)
    (h : env1.get x = env2.get x) :
    (resolve c [.sizeOf x]).2 = [.sizeOf x] ∧
    evaluate env1 [.sizeOf x] = evaluate env2 [.sizeOf x] := by
  refine ⟨by rw [resolve_snd]; rfl, ?_⟩
  rw [evaluate_sizeOf, evaluate_sizeOf]
  unfold sizeOfStep; rw [h]

theorem key_ne_here (sname f : String) : key sname f ≠ "@here" := by
  intro h
  have h1 : '.' ∈ (key sname f).toList := by simp [key, String.toList_append]
  rw [h] at h1
  revert h1; decide

theorem valOf_label {c : CoreSt} {k : String} {v : I32} {m : List (String × String)}
    (hk : k ≠ "@here") (h : c.symtab.get k = some ⟨.val v, m⟩) : valOf c [.label k] = some v :=
  valOf_of_evaluate (by
    rw [List.map_singleton, c.inline_label hk, labelNode_val c k v m h, evaluate_val])

theorem valOf_sizeOf {c : CoreSt} {k : String} {sym : Sym} {fs : I32}
    (h : c.symtab.get k = some ⟨sym, [("@SIZEOF", toString fs.toInt)]⟩) :
    valOf c [.sizeOf k] = some fs :=
  valOf_of_evaluate (evaluate_sizeOf_entry h)

/-- **Earlier fields are visible.** The operand of a member is read and evaluated in the state
that the members before it produced (`members_cons`); in that state an earlier field `f`
already has its offset as value and its declared size as `@sizeof`, and keeps them for all the
remaining members. -/
theorem field_refs_earlier {sname : String} {c c1 c2 : CoreSt} {size s1 s2 : I32} {f : String}
    {e : List Node} {mid : List Member}
    (h : member sname c size (.field f e) = .ok (c1, s1))
    (hmid : members sname c1 s1 mid = .ok (c2, s2)) :
    ∃ fs, valOf c e = some fs ∧
      valOf c2 [.label (key sname f)] = some size ∧
      valOf c2 [.sizeOf (key sname f)] = some fs := by
  obtain ⟨fs, hv, hget⟩ := member_field_get h
  have hk := members_mono hmid hget
  exact ⟨fs, hv, valOf_label (key_ne_here sname f) hk, valOf_sizeOf hk⟩

example : layout [.field "a" 1, .align 4, .field "b" 2] 0 = ([("a", 0), ("b", 4)], 6) := by decide

example :
    ((exec {} (.struct "S" [.field "a" [.val 1], .align [.val 4], .field "b" [.val 2]])).toOption.map
      fun s => ((s.core.symtab.get "S.a").map (·.metas), labelNode s.core "S.a",
        labelNode s.core "S.b", labelNode s.core "S", evaluate s.core.symtab [.sizeOf "S.b"],
        s.core.ns)) =
    some (some [("@SIZEOF", "1")], .val 0, .val 4, .val 6, .ok 2, none) := by rfl

example : (assembleAbs [.dbVal [.sizeOf "S.b"],
    .struct "S" [.field "a" [.val 3], .field "b" [.sizeOf "S.a"]],
    .dbVal [.label "S"], .dbVal [.sizeOf "S.b"]]).toOption = some [3, 6, 3] := by decide

example : (assembleAbs [.struct "S" [.field "a" [.val 1], .field "a" [.val 1]]]).toOption = none := by
  decide
example : (assembleAbs [.label "S", .struct "S" []]).toOption = none := by decide

end Az65.Thm.C16
