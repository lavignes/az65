import Az65.Model.Tables
import Az65.Lemmas.LexLemmas
/-
C14 — "Diagnostics point at the offending token's file, line and column."  Proved here: the
locations the lexer puts into its tokens and errors are positions of the text, against the Spec
`posOf`.  (What the pump, the directives and the linker do with them is compared by runs.)

The property is `lexer_loc_invariant` (`loc`, in every state reachable from `Lexer.new`: `Reach`),
`pending_invariant`, `next_token_loc` and `token_loc` (`tokLoc`: reachable states, one `next`, a whole
run), `error_loc` (which location each class of error carries) and `lexAll_error_loc`.
`Inv` is the shape in which `lexer_loc_invariant` states the invariant: some offset `k` into `cs`,
before the end-of-input flush.  The proofs carry `GAt … k` instead — `Inv` with the offset as a ghost
parameter, counted in `cs ++ ['\n']` so that the flush is one more character, and with the clauses
that make it inductive and give the token positions (`hstash`, `hpending`); `G` hides the offset.
`Inv_lexStep`, `flush_loc` and `tokLoc_is_start` say the same for one step from an arbitrary state;
the theorems about reachable states do not use them.
-/
namespace Az65.Thm.C14
open Az65

/-- **Spec.**  Position after consuming the first `k` characters of `cs`:
line = 1 + number of `'\n'` among them, column = number of characters after the last `'\n'` among
them (0 right after a newline, and 0 at the very start). -/
def posOf (cs : List Char) (k : Nat) : Nat × Nat :=
  (1 + (cs.take k).count '\n', ((cs.take k).reverse.takeWhile (· != '\n')).length)

def advance (p : Nat × Nat) (c : Char) : Nat × Nat :=
  if c = '\n' then (p.1 + 1, 0) else (p.1, p.2 + 1)

theorem posOf_zero (cs : List Char) : posOf cs 0 = (1, 0) := by
  simp [posOf]

theorem posOf_succ {cs : List Char} {k : Nat} {c : Char} (h : cs[k]? = some c) :
    posOf cs (k + 1) = advance (posOf cs k) c := by
  unfold posOf advance
  rw [List.take_add_one, h]
  by_cases hc : c = '\n'
  · subst hc; simp [List.count_append]; omega
  · simp [List.count_append, hc]

theorem posOf_append_left {cs : List Char} (t : List Char) {k : Nat} (h : k ≤ cs.length) :
    posOf (cs ++ t) k = posOf cs k := by
  unfold posOf; rw [List.take_append_of_le_length h]


theorem stepLoc_pos (l : Loc) (c : Char) :
    ((stepLoc l c).line, (stepLoc l c).col) = advance (l.line, l.col) c ∧
    (stepLoc l c).file = l.file := by
  unfold stepLoc advance
  by_cases h : c = '\n'
  · subst h; exact ⟨rfl, rfl⟩
  · have h' : (c == '\n') = false := by simpa using h
    simp [h, h']

theorem drop_cons {cs : List Char} {k : Nat} {c : Char} {rest : List Char}
    (h : cs.drop k = c :: rest) :
    k < cs.length ∧ cs[k]? = some c ∧ rest = cs.drop (k + 1) := by
  refine ⟨?_, ?_, ?_⟩
  · rcases Nat.lt_or_ge k cs.length with hk | hk
    · exact hk
    · rw [List.drop_of_length_le hk] at h; cases h
  · have := congrArg (·[0]?) h
    simpa using this
  · have := congrArg List.tail h
    simpa using this.symm

def Inv (cs : List Char) (file : Nat) (lx : Lexer) : Prop :=
  ∃ k, k ≤ cs.length ∧ lx.input = cs.drop k ∧ (lx.loc.line, lx.loc.col) = posOf cs k ∧
    lx.loc.file = file

theorem Inv_new (file : Nat) (cs : List Char) (e : StreamEnd) : Inv cs file (Lexer.new file cs e) :=
  ⟨0, Nat.zero_le _, rfl, (posOf_zero cs).symm, rfl⟩

theorem Inv_lexStep (T : LexTables) {cs : List Char} {file : Nat} {lx : Lexer}
    (h : Inv cs file lx) (hne : lx.stash ≠ none ∨ lx.input ≠ []) :
    Inv cs file (lexStep T lx).lx := by
  obtain ⟨k, hk, hin, hpos, hfile⟩ := h
  rcases lexStep_cases T lx with ⟨l, c, hf, e⟩ | ⟨hs, hi, _⟩ | ⟨io, hs, hi, _⟩
  · obtain ⟨h1, h2, _, _⟩ := lexChar_frame T l c
    rw [e]
    cases hf with
    | stash => exact ⟨k, hk, h1.trans hin, by rw [h2]; exact hpos, by rw [h2]; exact hfile⟩
    | input hs hi =>
      obtain ⟨hlt, hget, hrest⟩ := drop_cons (hi ▸ hin).symm
      obtain ⟨hp, hf⟩ := stepLoc_pos lx.loc c
      refine ⟨k + 1, hlt, h1.trans hrest, ?_, by rw [h2]; exact hf.trans hfile⟩
      rw [h2, posOf_succ hget, ← hpos]; exact hp
    | flush hs hi => exact (hne.elim (fun h => h hs) fun h => h hi).elim
  all_goals exact (hne.elim (fun h => h hs) fun h => h hi).elim

/-- **C14 (location invariant, one fetch).**  Whatever the state of the machine (comment, string,
escape, backslash-newline continuation inside a string, number, symbol, identifier, directive) and
whatever the outcome of the iteration (token, error, `continue`), as long as a character is
available (stashed or unread) the invariant is preserved: `loc` stays the Spec position of the
last character consumed. -/
theorem Inv_lexStep_outcomes (T : LexTables) {cs : List Char} {file : Nat} {lx : Lexer}
    (h : Inv cs file lx) (hne : lx.stash ≠ none ∨ lx.input ≠ []) :
    (∀ t lx', lexStep T lx = .tok t lx' → Inv cs file lx') ∧
    (∀ lx', lexStep T lx = .more lx' → Inv cs file lx') ∧
    (∀ e lx', lexStep T lx = .err e lx' → Inv cs file lx') := by
  have := Inv_lexStep T h hne
  refine ⟨?_, ?_, ?_⟩ <;> intros <;> simp_all [LexOut.lx]

/-- **C14 (end-of-input flush).**  When the input is exhausted (nothing stashed, clean end of
stream, flush not done yet) the lexer pretends one more `'\n'`: `loc` becomes (line + 1, 0). -/
theorem flush_loc (T : LexTables) {lx : Lexer}
    (hs : lx.stash = none) (hi : lx.input = []) (he : lx.ending = .eof) (hf : lx.eof = false) :
    (lexStep T lx).lx.loc = { lx.loc with line := lx.loc.line + 1, col := 0 } ∧
    (lexStep T lx).lx.eof = true ∧ (lexStep T lx).lx.input = [] := by
  rw [(Fetch.flush hs hi he hf).lexStep]
  obtain ⟨h1, h2, _, h4⟩ := lexChar_frame T
    { lx with eof := true, loc := { lx.loc with line := lx.loc.line + 1, col := 0 } } '\n'
  exact ⟨h2, h4, h1.trans hi⟩

/-- **C14 (`tokLoc` is the start of the token).**  From `initial`, entering a token-building
state records the current `loc` (the Spec position of the character that opens the token) as
`tokLoc`; from each of the 16 non-initial states, every branch leaves `tokLoc` untouched. -/
theorem tokLoc_is_start (T : LexTables) (lx : Lexer) (c : Char) :
    (lx.state = .initial →
      ((lexChar T lx c).lx.tokLoc = lx.tokLoc ∧ (lexChar T lx c).lx.state = .initial) ∨
      ((lexChar T lx c).lx.tokLoc = lx.loc ∧ (lexChar T lx c).lx.state ≠ .initial ∧
        startsToken T (lexChar T lx c).lx.state c = true)) ∧
    (lx.state ≠ .initial → (lexChar T lx c).lx.tokLoc = lx.tokLoc) :=
  by
  obtain ⟨F, hF, h⟩ := lexChar_step₁ T lx c
  rw [h]
  cases hF with
  | go s' b' hs => exact ⟨fun h0 => .inl ⟨rfl, hs.mpr h0⟩, fun _ => rfl⟩
  | start s' b' hs hs' _ hst => exact ⟨fun _ => .inr ⟨rfl, hs', hst⟩, fun h0 => absurd hs h0⟩
  | newline | err => exact ⟨fun h0 => .inl ⟨rfl, h0⟩, fun _ => rfl⟩
  | tok | errEnd => exact ⟨fun _ => .inl ⟨rfl, rfl⟩, fun _ => rfl⟩

theorem errsOf_false_ne_initial {s : LState} {k : LexErrKind} (h : (k, false) ∈ errsOf s) : s ≠ .initial := by
  rintro rfl
  simp [errsOf] at h

/-- **C14 (error locations, by error class).**  An error produced by one iteration carries
either the current `loc` — `lineBreak`; `escape` right after the backslash or at the first hex
digit; `input` for an illegal character met in `initial` — or the `tokLoc` of the token being
built — `bin`, `dec`, `hex`, `directive`, `label`, `charLit`; `escape` at the second hex digit;
`input` for an unknown symbol; (the `InShiftSymbol` panic site, excluded by C13). -/
theorem error_loc (T : LexTables) (lx : Lexer) (c : Char) (e : LexErr) (lx' : Lexer)
    (h : lexChar T lx c = .err e lx') :
    (e.loc = lx.loc ∧
      (e.kind = .lineBreak ∨
       (e.kind = .escape ∧ (lx.state = .inStringEscape ∨ lx.state = .inHexStringEscape1 ∨
          lx.state = .inCharEscape ∨ lx.state = .inHexCharEscape1)) ∨
       (e.kind = .input ∧ lx.state = .initial))) ∨
    (e.loc = lx.tokLoc ∧ lx.state ≠ .initial ∧
      (e.kind = .bin ∨ e.kind = .dec ∨ e.kind = .hex ∨ e.kind = .directive ∨ e.kind = .label ∨
       e.kind = .charLit ∨
       (e.kind = .escape ∧ (lx.state = .inHexStringEscape2 ∨ lx.state = .inHexCharEscape2)) ∨
       (e.kind = .input ∧ lx.state = .inSymbol) ∨
       (∃ s, e.kind = .crash s ∧ lx.state = .inShiftSymbol))) := by
  obtain ⟨F, hF, e'⟩ := lexChar_step₁ T lx c
  rw [e'] at h
  -- both kinds of error step report an entry of the table `errsOf`, where that entry says
  obtain ⟨cur, hk, hl⟩ : ∃ cur, (e.kind, cur) ∈ errsOf lx.state ∧
      e.loc = bif cur then lx.loc else lx.tokLoc := by
    cases hF with
    | go | start | newline | tok => cases h
    | err k cur hk => cases h; exact ⟨cur, hk, rfl⟩
    | errEnd k f _ _ hk => cases h; exact ⟨false, hk, rfl⟩
  -- the table read row by row
  rw [hl]
  clear hl h hF e'
  generalize lx.state = s, e.kind = k at hk ⊢
  cases s <;> simp only [errsOf, List.mem_cons, List.not_mem_nil, Prod.mk.injEq, or_false] at hk <;>
    rcases hk with ⟨rfl, rfl⟩ | ⟨rfl, rfl⟩ <;> simp_all

/-- A token's location is the Spec position of a character of the text (extended by the one
pretended final `'\n'`) that is a legal first character for that kind of token; right file.  The
position of character `j` is `posOf _ (j + 1)`, the position after it: columns count from 1, and a
`'\n'` sits at column 0 of the line it opens. -/
def TokAt (T : LexTables) (cs : List Char) (file : Nat) (t : LTok) : Prop :=
  t.loc.file = file ∧ ∃ j c0, (cs ++ ['\n'])[j]? = some c0 ∧
    (t.loc.line, t.loc.col) = posOf (cs ++ ['\n']) (j + 1) ∧ tokStart T t.tok c0 = true

def ErrAt (cs : List Char) (file : Nat) (e : LexErr) : Prop :=
  e.loc.file = file ∧ ∃ k, k ≤ cs.length + 1 ∧ (e.loc.line, e.loc.col) = posOf (cs ++ ['\n']) k

/-- While a token is being built in state `s`, `tokLoc` is the Spec position of a character before
index `k` that is a legal first character for `s`. -/
def Pending (T : LexTables) (cs : List Char) (tokLoc : Loc) (s : LState) (k : Nat) : Prop :=
  ∃ j c0, j < k ∧ (cs ++ ['\n'])[j]? = some c0 ∧
    (tokLoc.line, tokLoc.col) = posOf (cs ++ ['\n']) (j + 1) ∧ startsToken T s c0 = true

theorem Pending.succ {T : LexTables} {cs : List Char} {tokLoc : Loc} {s : LState} {k : Nat}
    (h : Pending T cs tokLoc s k) : Pending T cs tokLoc s (k + 1) :=
  let ⟨j, c0, hj, h⟩ := h
  ⟨j, c0, Nat.lt_succ_of_lt hj, h⟩

/-- The working invariant; `k` = number of characters consumed, the pretended final `'\n'` being
character number `cs.length` (`hlo`, `hhi`: `k ≤ cs.length` before the flush, `cs.length + 1` after).
Beyond `Inv`: a stashed character is the last one consumed (`hstash`), so that fetching it again
leaves `k` alone; `hpending`. -/
structure GAt (T : LexTables) (cs : List Char) (file : Nat) (lx : Lexer) (k : Nat) : Prop where
  hinput : lx.input = cs.drop k
  hlo : lx.eof = false → k ≤ cs.length
  hhi : lx.eof = true → k = cs.length + 1
  hpos : (lx.loc.line, lx.loc.col) = posOf (cs ++ ['\n']) k
  hfile : lx.loc.file = file
  htfile : lx.tokLoc.file = file
  hstash : ∀ c, lx.stash = some c → ∃ j, k = j + 1 ∧ (cs ++ ['\n'])[j]? = some c
  hpending : lx.state ≠ .initial → Pending T cs lx.tokLoc lx.state k

/-- `GAt` for some offset: an invariant of the form `Lexer.next_inv` and `lexAll_inv` take. -/
def G (T : LexTables) (cs : List Char) (file : Nat) (lx : Lexer) : Prop := ∃ k, GAt T cs file lx k

theorem G_new (T : LexTables) (file : Nat) (cs : List Char) (e : StreamEnd) :
    G T cs file (Lexer.new file cs e) :=
  ⟨0, rfl, fun _ => Nat.zero_le _, (fun h => nomatch h), (posOf_zero _).symm, rfl, rfl,
    (fun _ h => nomatch h), fun h => absurd rfl h⟩

theorem GAt.le {T : LexTables} {cs : List Char} {file : Nat} {lx : Lexer} {k : Nat}
    (hg : GAt T cs file lx k) : k ≤ cs.length + 1 := by
  cases h : lx.eof with
  | false => exact Nat.le_succ_of_le (hg.hlo h)
  | true => exact Nat.le_of_eq (hg.hhi h)

theorem GAt_lexChar (T : LexTables) {cs : List Char} {file : Nat} {l : Lexer} {j : Nat} {c : Char}
    (hg : GAt T cs file l (j + 1)) (hst : l.stash = none) (hc : (cs ++ ['\n'])[j]? = some c) :
    GAt T cs file (lexChar T l c).lx (j + 1) ∧ (lexChar T l c).TokP (TokAt T cs file) ∧
    (lexChar T l c).ErrP (ErrAt cs file) := by
  obtain ⟨F, hF, h⟩ := lexChar_step₁ T l c
  rw [h]
  have hj := hg.le
  have hstash : ∀ f, StashUpd c f → ∀ c', f l.stash = some c' →
      ∃ j', j + 1 = j' + 1 ∧ (cs ++ ['\n'])[j']? = some c' := by
    intro f hf c' h'
    rcases hf _ _ h' with h'' | rfl
    · rw [hst] at h''; cases h''
    · exact ⟨j, rfl, hc⟩
  cases hF with
  | go s' b' hs hmono =>
    refine ⟨{ hg with hpending := fun hne => ?_ }, trivial, trivial⟩
    obtain ⟨j', c0, hj', hc0, hp, h0⟩ := hg.hpending fun h => hne (hs.mpr h)
    exact ⟨j', c0, hj', hc0, hp, hmono c0 h0⟩
  | start s' b' _ _ _ hst' =>
    exact ⟨{ hg with
      htfile := hg.hfile
      hpending := fun _ => ⟨j, c, Nat.lt_succ_self j, hc, hg.hpos, hst'⟩ }, trivial, trivial⟩
  | newline _ hc' => exact ⟨hg, ⟨hg.hfile, j, c, hc, hg.hpos, by rw [hc']; rfl⟩, trivial⟩
  | tok t b' f hs _ hts hf =>
    obtain ⟨j', c0, hj', hc0, hp, h0⟩ := hg.hpending hs
    exact ⟨{ hg with hstash := hstash f hf, hpending := fun h => absurd rfl h },
      ⟨hg.htfile, j', c0, hc0, hp, hts c0 h0⟩, trivial⟩
  | err k cur hk =>
    refine ⟨hg, trivial, ?_⟩
    cases cur with
    | true => exact ⟨hg.hfile, j + 1, hj, hg.hpos⟩
    | false =>
      obtain ⟨j', c0, hj', _, hp, _⟩ :=
        hg.hpending (errsOf_false_ne_initial hk)
      exact ⟨hg.htfile, j' + 1, by omega, hp⟩
  | errEnd k f hs _ _ hf =>
    obtain ⟨j', c0, hj', _, hp, _⟩ := hg.hpending hs
    exact ⟨{ hg with hstash := hstash f hf, hpending := fun h => absurd rfl h },
      trivial, ⟨hg.htfile, j' + 1, by omega, hp⟩⟩

/-- After a fetch the offset is one past the character fetched; for a stashed character that is
where it stood (`hstash`). -/
theorem GAt_fetch {T : LexTables} {cs : List Char} {file : Nat} {lx l : Lexer} {k : Nat} {c : Char}
    (hg : GAt T cs file lx k) (hf : Fetch lx l c) :
    ∃ j, GAt T cs file l (j + 1) ∧ (cs ++ ['\n'])[j]? = some c := by
  cases hf with
  | stash hs =>
    obtain ⟨j, rfl, hc⟩ := hg.hstash c hs
    exact ⟨j, { hg with hstash := fun _ h => nomatch h }, hc⟩
  | input hs hi =>
    obtain ⟨hlt, hget, hrest⟩ := drop_cons (hi ▸ hg.hinput).symm
    have hc : (cs ++ ['\n'])[k]? = some c := by rw [List.getElem?_append_left hlt]; exact hget
    obtain ⟨hp, hf⟩ := stepLoc_pos lx.loc c
    exact ⟨k, { hg with
      hinput := hrest
      hlo := fun _ => hlt
      hhi := fun h => absurd (hg.hhi h) (by omega)
      hpos := by rw [posOf_succ hc, ← hg.hpos]; exact hp
      hfile := hf.trans hg.hfile
      hstash := fun _ h => nomatch hs.symm.trans h
      hpending := fun h => (hg.hpending h).succ }, hc⟩
  | flush hs hi he hf =>
    obtain rfl : k = cs.length :=
      Nat.le_antisymm (hg.hlo hf) (List.drop_eq_nil_iff.mp (hi ▸ hg.hinput).symm)
    have hc : (cs ++ ['\n'])[cs.length]? = some '\n' := by simp
    exact ⟨cs.length, { hg with
      hinput := by rw [hi]; exact (List.drop_eq_nil_iff.mpr (Nat.le_succ _)).symm
      hlo := fun h => nomatch h
      hhi := fun _ => rfl
      hpos := by rw [posOf_succ hc, ← hg.hpos]; simp [advance]
      hstash := fun _ h => nomatch hs.symm.trans h
      hpending := fun h => (hg.hpending h).succ }, hc⟩

theorem G_lexStep (T : LexTables) {cs : List Char} {file : Nat} (lx : Lexer) (hg : G T cs file lx) :
    G T cs file (lexStep T lx).lx ∧ (lexStep T lx).TokP (TokAt T cs file) ∧
    (lexStep T lx).ErrP (ErrAt cs file) := by
  obtain ⟨k, hg⟩ := hg
  rcases lexStep_cases T lx with ⟨l, c, hf, e⟩ | ⟨_, _, _, _, e⟩ | ⟨io, _, _, _, e⟩ <;> rw [e]
  · obtain ⟨j, hg', hc⟩ := GAt_fetch hg hf
    obtain ⟨h1, h2, h3⟩ := GAt_lexChar T hg' hf.frame.1 hc
    exact ⟨⟨_, h1⟩, h2, h3⟩
  · exact ⟨⟨k, hg⟩, trivial, trivial⟩
  · exact ⟨⟨k, hg⟩, trivial, hg.hfile, k, hg.le, hg.hpos⟩

inductive Reach (T : LexTables) (lx0 : Lexer) : Lexer → Prop
  | refl : Reach T lx0 lx0
  | step {lx : Lexer} : Reach T lx0 lx → Reach T lx0 (lexStep T lx).lx

theorem G_reach (T : LexTables) {cs : List Char} {file : Nat} {lx0 lx : Lexer}
    (h0 : G T cs file lx0) (h : Reach T lx0 lx) : G T cs file lx := by
  induction h with
  | refl => exact h0
  | step _ ih => exact (G_lexStep T _ ih).1

theorem posOf_flush (cs : List Char) :
    posOf (cs ++ ['\n']) (cs.length + 1) = ((posOf cs cs.length).1 + 1, 0) := by
  have hc : (cs ++ ['\n'])[cs.length]? = some '\n' := by simp
  rw [posOf_succ hc, posOf_append_left _ (Nat.le_refl _)]
  simp [advance]

/-- **C14 (location invariant).**  In every state the lexer reaches from `Lexer.new file cs ending`
— across comments, blank lines, strings, backslash-newline continuations inside strings, numbers,
symbols, identifiers; after tokens and after errors — `loc` and `tokLoc` name the file `file` and:
before the end-of-input flush, `loc` is exactly the Spec position `posOf cs k` of the last of the
`k` characters consumed, the rest `cs.drop k` being still unread (`Inv`);
after the flush (one pretended `'\n'`), `loc` is (number of lines + 1, 0). -/
theorem lexer_loc_invariant (T : LexTables) (file : Nat) (cs : List Char) (ending : StreamEnd)
    (lx : Lexer) (h : Reach T (Lexer.new file cs ending) lx) :
    lx.loc.file = file ∧ lx.tokLoc.file = file ∧
    (lx.eof = false → Inv cs file lx) ∧
    (lx.eof = true → lx.input = [] ∧
      (lx.loc.line, lx.loc.col) = ((posOf cs cs.length).1 + 1, 0)) := by
  obtain ⟨k, hg⟩ := G_reach T (G_new T file cs ending) h
  refine ⟨hg.hfile, hg.htfile, ?_, ?_⟩
  · intro he
    have hk := hg.hlo he
    exact ⟨k, hk, hg.hinput, by rw [← posOf_append_left ['\n'] hk]; exact hg.hpos, hg.hfile⟩
  · intro he
    obtain rfl := hg.hhi he
    exact ⟨by rw [hg.hinput]; exact List.drop_eq_nil_iff.mpr (Nat.le_succ _),
      by rw [← posOf_flush]; exact hg.hpos⟩

/-- `Lexer::next` stays inside the reachable states (so the invariant holds between tokens). -/
theorem lexer_loc_invariant_next (T : LexTables) (file : Nat) (cs : List Char) (ending : StreamEnd)
    (lx : Lexer) (h : Reach T (Lexer.new file cs ending) lx) (f : Nat) :
    Reach T (Lexer.new file cs ending) (Lexer.next T f lx).lx :=
  (Lexer.next_inv (P := fun _ => True) (E := fun _ => True)
    (fun lx h => ⟨Reach.step h, (lexStep T lx).TokP_true, (lexStep T lx).ErrP_true⟩) f lx h).1

/-- **C14 (a token reports the position of its first character).**  Every token of a run of the
lexer over the text `cs` of file `file` names `file`, and its (line, column) is the Spec position
`posOf cs (k+1)` of a character `cs[k]` that is a legal FIRST character for that kind of token
(`;` comment, `"` string, `'`/`%`/digit/`$` number, symbol-start character or `%` symbol, `@`
directive, identifier character for operation/register/flag/label names, `'\n'` for NewLine — whose
position is by convention (line + 1, 0)) — however many characters and lines the token spans; or
it is a token started by the single `'\n'` pretended at the end of the input, at (number of lines
+ 1, 0). -/
theorem token_loc (T : LexTables) (file : Nat) (cs : List Char) (ending : StreamEnd) (fuel : Nat) :
    ∀ t ∈ (lexAll T fuel (Lexer.new file cs ending)).1,
      t.loc.file = file ∧
      ((∃ k c, cs[k]? = some c ∧ (t.loc.line, t.loc.col) = posOf cs (k + 1) ∧
          tokStart T t.tok c = true) ∨
       ((t.loc.line, t.loc.col) = ((posOf cs cs.length).1 + 1, 0) ∧
          tokStart T t.tok '\n' = true)) := by
  intro t ht
  obtain ⟨hf, j, c0, hc0, hp, hs⟩ := (lexAll_inv (G_lexStep T) fuel _ (G_new T file cs ending)).1 t ht
  refine ⟨hf, ?_⟩
  rcases Nat.lt_trichotomy j cs.length with hj | hj | hj
  · rw [List.getElem?_append_left hj] at hc0
    rw [posOf_append_left _ (Nat.succ_le_of_lt hj)] at hp
    exact Or.inl ⟨j, c0, hc0, hp, hs⟩
  · subst hj
    rw [posOf_flush] at hp
    have : c0 = '\n' := by simpa using hc0.symm
    subst this
    exact Or.inr ⟨hp, hs⟩
  · have : (cs ++ ['\n'])[j]? = none := by
      apply List.getElem?_eq_none; simp; omega
    rw [this] at hc0; cases hc0

/-- **C14 (an error reports a position of the text).**  The error that ends a run names `file`
and its (line, column) is the Spec position after some number `k` of characters of the text
(`error_loc` says which: the character just read, or the first character of the token). -/
theorem lexAll_error_loc (T : LexTables) (file : Nat) (cs : List Char) (ending : StreamEnd)
    (fuel : Nat) (e : LexErr) (h : (lexAll T fuel (Lexer.new file cs ending)).2 = some e) :
    e.loc.file = file ∧
    ((∃ k, k ≤ cs.length ∧ (e.loc.line, e.loc.col) = posOf cs k) ∨
     (e.loc.line, e.loc.col) = ((posOf cs cs.length).1 + 1, 0)) := by
  obtain ⟨hf, k, hk, hp⟩ := (lexAll_inv (G_lexStep T) fuel _ (G_new T file cs ending)).2 e h
  refine ⟨hf, ?_⟩
  rcases Nat.lt_or_ge k (cs.length + 1) with hlt | hge
  · exact Or.inl ⟨k, Nat.le_of_lt_succ hlt, by rw [← posOf_append_left ['\n'] (Nat.le_of_lt_succ hlt)]; exact hp⟩
  · have : k = cs.length + 1 := Nat.le_antisymm hk hge
    subst this
    exact Or.inr (by rw [← posOf_flush]; exact hp)


/-- **C14 (pending token).**  In every reachable state before the end-of-input flush, while a
token is being built (`state ≠ initial`), `tokLoc` is the Spec position `posOf cs (k+1)` of an
already consumed character `cs[k]` which is a legal first character for the current state. -/
theorem pending_invariant (T : LexTables) (file : Nat) (cs : List Char) (ending : StreamEnd)
    (lx : Lexer) (h : Reach T (Lexer.new file cs ending) lx) (he : lx.eof = false)
    (hs : lx.state ≠ .initial) :
    ∃ k c0, cs[k]? = some c0 ∧ (lx.tokLoc.line, lx.tokLoc.col) = posOf cs (k + 1) ∧
      startsToken T lx.state c0 = true := by
  obtain ⟨k, hg⟩ := G_reach T (G_new T file cs ending) h
  obtain ⟨j, c0, hj, hc0, hp, hst⟩ := hg.hpending hs
  have hjl : j < cs.length := Nat.lt_of_lt_of_le hj (hg.hlo he)
  rw [List.getElem?_append_left hjl] at hc0
  rw [posOf_append_left _ (Nat.succ_le_of_lt hjl)] at hp
  exact ⟨j, c0, hc0, hp, hst⟩

/-- **C14 (one `next`).**  From any reachable state, the token returned by `Lexer::next` carries
the file and the Spec position of a character that is a legal first character for its kind (in the
text extended by the pretended final newline), and an error carries a Spec position. -/
theorem next_token_loc (T : LexTables) (file : Nat) (cs : List Char) (ending : StreamEnd)
    (lx : Lexer) (h : Reach T (Lexer.new file cs ending) lx) (f : Nat) :
    (∀ t lx', Lexer.next T f lx = .tok t lx' → TokAt T cs file t) ∧
    (∀ e lx', Lexer.next T f lx = .err e lx' → ErrAt cs file e) := by
  obtain ⟨_, h2, h3⟩ := Lexer.next_inv (G_lexStep T) f lx (G_reach T (G_new T file cs ending) h)
  exact ⟨fun t lx' e => LexOut.TokP_of_eq h2 e, fun x lx' e => LexOut.ErrP_of_eq h3 e⟩

/-- `ld a, 5⏎  "x\⏎y" q` — a string continued over a line break with a backslash. -/
def ex1 : List Char :=
  ['l','d',' ','a',',',' ','5','\n',' ',' ','"','x','\\','\n','y','"',' ','q']

example : lexAll (lexTables .z80) 20 (Lexer.new 7 ex1) =
    ([⟨.op "Ld", ⟨7, 1, 1⟩⟩, ⟨.reg "A", ⟨7, 1, 4⟩⟩, ⟨.sym "Comma", ⟨7, 1, 5⟩⟩, ⟨.num 5, ⟨7, 1, 7⟩⟩,
      ⟨.newline, ⟨7, 2, 0⟩⟩,
      -- the string starts at line 2 column 3 and ends on line 3: it reports its first character
      ⟨.str "xy", ⟨7, 2, 3⟩⟩,
      -- `q` is on line 3 (the continued line counts), column 4
      ⟨.label .global "q", ⟨7, 3, 4⟩⟩,
      -- the pretended final newline
      ⟨.newline, ⟨7, 4, 0⟩⟩], none) := by decide +kernel

example : posOf ex1 11 = (2, 3) ∧ ex1[10]? = some '"' ∧ posOf ex1 18 = (3, 4) ∧ ex1[17]? = some 'q' ∧
    posOf ex1 8 = (2, 0) ∧ ex1[7]? = some '\n' := by decide +kernel

/-- `; c⏎⏎ nop $1G` — comment, blank line, then a bad hex number: the error names the `$`. -/
def ex2 : List Char := [';',' ','c','\n','\n',' ','n','o','p',' ','$','1','G']

example : lexAll (lexTables .mos6502) 20 (Lexer.new 3 ex2) =
    ([⟨.comment, ⟨3, 1, 1⟩⟩, ⟨.newline, ⟨3, 2, 0⟩⟩, ⟨.newline, ⟨3, 3, 0⟩⟩, ⟨.op "Nop", ⟨3, 3, 2⟩⟩],
     some ⟨.hex, ⟨3, 3, 6⟩⟩) := by decide +kernel

/-- `"ab⏎` — a line break inside a string: the error names the line break (current `loc`). -/
example : lexAll (lexTables .sm83) 20 (Lexer.new 0 ['"','a','b','\n']) =
    ([], some ⟨.lineBreak, ⟨0, 2, 0⟩⟩) := by decide +kernel

/-- An illegal character met in `initial` is reported at its own position. -/
example : lexAll (lexTables .z80) 20 (Lexer.new 0 ['a',' ','`']) =
    ([⟨.reg "A", ⟨0, 1, 1⟩⟩], some ⟨.input, ⟨0, 1, 3⟩⟩) := by decide +kernel

/-- The hypothesis of `Inv_lexStep` holds of the initial lexer. -/
example : Inv ex1 7 (Lexer.new 7 ex1) := Inv_new 7 ex1 .eof

end Az65.Thm.C14
