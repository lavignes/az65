import Az65.Lemmas.AbsFrame
/-
C08 — definitions are immutable unless redefined; each use sees a well-defined value.

The table is an association list read through `Env.get`, which `abs_set` / `abs_remove` show to be
a finite map.  On it, single steps give the first half of the property: a plain definition of a
name that is present is rejected (`second_definition_rejected`), `@redef*` overwrites, `@undef`
removes and frees the name, `@isdef` is membership, and no statement kind but the defining ones
touches the table (`exec_symtab_frame`).  The second half rests on how an expression is read: a
name that has a value at that point is replaced by it, so the expression kept does not mention
the name (`snapshot`, `snapshot_general`, `self_update`) and bytes once placed are never rewritten
(`exec_data_prefix`); a name without a value stays in the expression, and its patch is evaluated
by `link` in the table the run ends with (`deferred_sees_final`).
-/
namespace Az65.Thm.C08
open Az65 Az65.Abs Az65.AbsFrame Az65.LinkLemmas

abbrev SymMap := String → Option Entry

def abs (env : Env) : SymMap := fun n => env.get n

theorem get_nil (n : String) : Env.get [] n = none := rfl

theorem abs_set (env : Env) (n : String) (e : Entry) :
    abs (env.set n e) = fun m => if m = n then some e else abs env m := by
  funext m
  by_cases h : m = n
  · subst h; simp [abs, Env.get_set_self]
  · simp [abs, h, Env.get_set_of_ne _ _ (Ne.symm h)]

theorem abs_remove (env : Env) (n : String) :
    abs (env.remove n) = fun m => if m = n then none else abs env m := by
  funext m
  by_cases h : m = n
  · subst h; simp [abs, Env.get_remove_self]
  · simp [abs, h, Env.get_remove_of_ne _ (Ne.symm h)]

theorem abs_nil : abs [] = fun _ => none := rfl

theorem resolve_nil (c : CoreSt) : resolve c [] = (c, []) := rfl

theorem resolve_here_eq (c : CoreSt) (e : List Node) : (resolve c e).1.here = c.here :=
  resolve_here c e

/-- **C08 (second definition rejected).** Whatever kind of definition put `d` in the table, a label,
a `@defl`/`@defn` and a `@struct` of that name are all rejected. -/
theorem second_definition_rejected (s : State) (d : String) (e : Entry)
    (h : s.core.symtab.get d = some e) :
    exec s (.label d) = .error ⟨.alreadyDefined, {}⟩ ∧
    (∀ keep ns, exec s (.define keep d ns) = .error ⟨.alreadyDefined, {}⟩) ∧
    (∀ ms, exec s (.struct d ms) = .error ⟨.alreadyDefined, {}⟩) := by
  refine ⟨?_, ?_, ?_⟩
  · simp [exec, Eff.label, h, Except.map]
  · intro keep ns; simp [exec, h]
  · intro ms; simp [exec, h]

/-- A struct field whose key `S.f` is present makes the member fail; with which diagnostic is left
open, since a size expression that cannot be computed fails first, with another one. -/
theorem member_field_rejected (sname f : String) (c : CoreSt) (size : I32) (sz : List Node)
    (e : Entry) (h : c.symtab.get (sname ++ "." ++ f) = some e) :
    ∃ er, member sname c size (.field f sz) = .error er := by
  cases hm : member sname c size (.field f sz) with
  | error er => exact ⟨er, rfl⟩
  | ok r =>
    obtain ⟨_, _, hn, _⟩ := member_field_ok hm
    rw [h] at hn; cases hn

/-- The metadata a `@defl`/`@redefl` (keep) or `@defn`/`@redefn` (drop) attaches. -/
def metaOf (c : CoreSt) (keep : Bool) : List (String × String) := if keep then c.curMeta else []

theorem redef_replaces (c : CoreSt) (keep : Bool) (d : String) (ns : List Node) :
    (Eff.redefine c keep d ns).symtab.get d = some ⟨.expr ns, metaOf c keep⟩ := by
  rw [Eff.redefine_eq]; exact CoreSt.insertWithMeta_get_self ..

theorem redef_other (c : CoreSt) (keep : Bool) (d m : String) (ns : List Node) (h : m ≠ d) :
    (Eff.redefine c keep d ns).symtab.get m = c.symtab.get m := by
  rw [Eff.redefine_eq]; exact CoreSt.insertWithMeta_get_of_ne _ _ _ (Ne.symm h)

/-- After `@undef` the name may be defined anew: a label and `@defl`/`@defn` succeed again (a struct
field likewise, by `Eff.structField_eq_ok`). -/
theorem undef_then_define (c : CoreSt) (keep : Bool) (d : String) (ns : List Node) (loc : Loc) :
    (∃ c', Eff.define (Eff.undef c d) keep d ns loc = .ok c' ∧
        c'.symtab.get d = some ⟨.expr ns, metaOf c keep⟩) ∧
    (∃ c', Eff.label (Eff.undef c d) d loc = .ok c' ∧
        c'.symtab.get d = some ⟨.val (i32OfNat c.here), c.curMeta⟩) :=
  have hn : (Eff.undef c d).symtab.get d = none := Env.get_remove_self ..
  ⟨⟨_, Eff.define_eq_ok.2 ⟨hn, rfl⟩, CoreSt.insertWithMeta_get_self ..⟩,
   ⟨_, Eff.label_eq_ok.2 ⟨hn, rfl⟩, CoreSt.insertWithMeta_get_self ..⟩⟩

/-- `@isdef name`: 1 iff the qualified name is in the table.  The token-level model does not use this
definition: `peekF` (`Model/Asm.lean`, at `.dir "IsDef"`) inlines the same test,
`(s.core.symtab.get direct).isSome`, and no lemma ties the two. -/
def isdef (c : CoreSt) (d : String) : Bool := (c.symtab.get d).isSome

theorem isdef_exact (c : CoreSt) (d : String) : isdef c d = true ↔ ∃ e, c.symtab.get d = some e := by
  unfold isdef; cases c.symtab.get d <;> simp

theorem isdef_false_iff (c : CoreSt) (d : String) : isdef c d = false ↔ c.symtab.get d = none := by
  unfold isdef; cases c.symtab.get d <;> simp

theorem isdef_insert (c : CoreSt) (d m : String) (s : Sym) (ms : List (String × String)) :
    isdef (c.insertWithMeta d s ms) m = (d == m || isdef c m) := by
  unfold isdef
  by_cases h : d = m
  · subst h; simp [CoreSt.insertWithMeta_get_self]
  · simp [CoreSt.insertWithMeta_get_of_ne _ _ _ h, h]

theorem isdef_after_definition (c c' : CoreSt) (d : String) (loc : Loc) :
    (Eff.label c d loc = .ok c' → isdef c' d = true) ∧
    (∀ keep ns, Eff.define c keep d ns loc = .ok c' → isdef c' d = true) ∧
    (∀ keep ns, isdef (Eff.redefine c keep d ns) d = true) ∧
    (∀ size fs txt sz', Eff.structField c d size fs txt loc = .ok (c', sz') → isdef c' d = true) := by
  refine ⟨fun h => ?_, fun _ _ h => ?_, fun _ _ => ?_, fun _ _ _ _ h => ?_⟩
  · obtain ⟨_, rfl⟩ := Eff.label_eq_ok.1 h; simp [CoreSt.insert_eq, isdef_insert]
  · obtain ⟨_, rfl⟩ := Eff.define_eq_ok.1 h; simp [isdef_insert]
  · simp [Eff.redefine_eq, isdef_insert]
  · obtain ⟨_, hc⟩ := Eff.structField_eq_ok.1 h; cases hc; simp [isdef_insert]

theorem isdef_after_undef (c : CoreSt) (d : String) : isdef (Eff.undef c d) d = false := by
  simp [isdef, Eff.undef, Env.get_remove_self]

theorem isdef_frame (c c' : CoreSt) (d m : String) (loc : Loc) (hm : m ≠ d) :
    (Eff.label c d loc = .ok c' → isdef c' m = isdef c m) ∧
    (∀ keep ns, Eff.define c keep d ns loc = .ok c' → isdef c' m = isdef c m) ∧
    (∀ keep ns, isdef (Eff.redefine c keep d ns) m = isdef c m) ∧
    (isdef (Eff.undef c d) m = isdef c m) := by
  have hne : (d == m) = false := by simpa using Ne.symm hm
  refine ⟨fun h => ?_, fun _ _ h => ?_, fun _ _ => ?_, ?_⟩
  · obtain ⟨_, rfl⟩ := Eff.label_eq_ok.1 h; simp [CoreSt.insert_eq, isdef_insert, hne]
  · obtain ⟨_, rfl⟩ := Eff.define_eq_ok.1 h; simp [isdef_insert, hne]
  · simp [Eff.redefine_eq, isdef_insert, hne]
  · simp [isdef, Eff.undef, Env.get_remove_of_ne _ (Ne.symm hm)]

/-- **C08 (bytes already produced never change).** Executing any statement only appends to the
output: every byte already placed keeps its position and value.  In particular no later
`@redefl`/`@redefn`/`@undef` can change a byte that an earlier use of the name produced. -/
theorem exec_data_prefix {s s' : State} {st : Stmt} (h : exec s st = .ok s') :
    ∃ bs, s'.core.data = s.core.data ++ bs := (exec_grow h).imp fun _ g => g.data

theorem run_data_prefix {s s' : State} {prog : List Stmt} (h : run s prog = .ok s') :
    ∃ bs, s'.core.data = s.core.data ++ bs := (run_grow h).imp fun _ g => g.data

theorem run_append_data_prefix {s s2 : State} {p q : List Stmt} (h : run s (p ++ q) = .ok s2) :
    ∃ s1, run s p = .ok s1 ∧ ∃ bs, s2.core.data = s1.core.data ++ bs :=
  let ⟨s1, h1, h2⟩ := run_append h
  ⟨s1, h1, run_data_prefix h2⟩

theorem redef_no_bytes (s : State) (keep : Bool) (d : String) (e : List Node) :
    (∃ s', exec s (.redefine keep d e) = .ok s' ∧ s'.core.data = s.core.data) ∧
    (∃ s', exec s (.undef d) = .ok s' ∧ s'.core.data = s.core.data) :=
  ⟨⟨_, exec_redefine s keep d e, by rw [Eff.redefine_eq]; exact resolve_data ..⟩,
   ⟨_, exec_undef s d, rfl⟩⟩

def defines : Stmt → Bool
  | .label _ | .define .. | .redefine .. | .undef _ | .struct .. => true
  | _ => false

/-- **C08 (`@isdef` changes only by definitions).** Every statement kind other than a label,
`@defl`/`@defn`, `@redefl`/`@redefn`, `@undef` and `@struct` leaves the symbol table - hence the
answer of every `@isdef` and the value of every name - unchanged. -/
theorem exec_symtab_frame {s s' : State} {st : Stmt} (hd : defines st = false)
    (h : exec s st = .ok s') : s'.core.symtab = s.core.symtab := by
  obtain ⟨_, hs⟩ := exec_step h
  have := hs.symtab
  cases st <;> first | exact this | cases hd

theorem labelNode_expr (c : CoreSt) (n : String) (body : List Node) (v : I32)
    (m : List (String × String)) (h : c.symtab.get n = some ⟨.expr body, m⟩)
    (hv : evaluate c.symtab body = .ok v) : labelNode c n = .val v := by
  simp [labelNode, h, hv]

/-- The value a name has "now": a plain value, or the value of its lazy definition. -/
def valueNow (c : CoreSt) (n : String) (v : I32) : Prop :=
  ∃ m, c.symtab.get n = some ⟨.val v, m⟩ ∨
    ∃ body, c.symtab.get n = some ⟨.expr body, m⟩ ∧ evaluate c.symtab body = .ok v

theorem labelNode_valueNow {c : CoreSt} {n : String} {v : I32} (h : valueNow c n v) :
    labelNode c n = .val v := by
  obtain ⟨m, h | ⟨body, h, hv⟩⟩ := h
  · exact labelNode_val c n v m h
  · exact labelNode_expr c n body v m h hv

theorem labelNode_cases (c : CoreSt) (n : String) :
    (∃ v, labelNode c n = .val v) ∨ labelNode c n = .label n := Az65.labelNode_cases c n

theorem labelNode_congr {c1 c2 : CoreSt} (h : c1.symtab = c2.symtab) (n : String) :
    labelNode c1 n = labelNode c2 n := by unfold labelNode; rw [h]

theorem pureStep_val (v : I32) (st : List I32) : pureStep (.val v) st = .ok (v :: st) := rfl
theorem pureStep_add (a b : I32) (st : List I32) :
    pureStep .add (b :: a :: st) = .ok ((a + b) :: st) := rfl

/-- **C08 (an immediate use is a snapshot).** A use of `n` at a point where its value `v` can be
computed is kept as the constant `v`: the expression recorded for the use does not mention `n`, so
evaluating it in ANY table - in particular the final one, after any redefinition or removal of `n` -
gives `v`. -/
theorem snapshot (c : CoreSt) (n : String) (v : I32) (hn : n ≠ "@here") (h : valueNow c n v) :
    (resolve c [.label n]).2 = [.val v] ∧ ∀ env : Env, evaluate env (resolve c [.label n]).2 = .ok v := by
  have : (resolve c [.label n]).2 = [.val v] := by
    rw [resolve_snd, List.map_singleton, c.inline_label hn, labelNode_valueNow h]
  exact ⟨this, fun env => by rw [this]; exact evaluate_val env v⟩

def Closed (e : List Node) : Prop := ∀ x ∈ e, x.access = .none

theorem evalList_closed (lz1 lz2 : List String → List Node → Res I32) (env1 env2 : Env)
    (vis1 vis2 : List String) : ∀ (e : List Node) (st : List I32), Closed e →
    evalList lz1 env1 vis1 e st = evalList lz2 env2 vis2 e st := by
  intro e
  induction e with
  | nil => intro st _; simp [evalList]
  | cons x r ih =>
    intro st hc
    have hx : x.access = .none := hc x (List.mem_cons_self ..)
    have hr : Closed r := fun y hy => hc y (List.mem_cons_of_mem _ hy)
    simp only [evalList, hx]
    cases pureStep x st with
    | ok st' => exact ih st' hr
    | unsolved => rfl
    | crash s => rfl

theorem evaluate_closed (env1 env2 : Env) (e : List Node) (h : Closed e) :
    evaluate env1 e = evaluate env2 e := by
  rw [evaluate_eq, evaluate_eq]
  exact evalList_closed _ _ _ _ _ _ e [] h

/-- The hypothesis of `snapshot_general`: every name of `e` (other than `@here`) has a value now.
`@sizeof` is excluded because it is never replaced when the expression is read
(`C16.sizeof_before_or_after`): it sees the table it is evaluated in. -/
def AllNow (c : CoreSt) (e : List Node) : Prop :=
  ∀ x ∈ e, (∀ n, x = .label n → n ≠ "@here" → ∃ v, valueNow c n v) ∧ (∀ n, x ≠ .sizeOf n)

theorem resolve_closed : ∀ (e : List Node) (c : CoreSt), AllNow c e → Closed (resolve c e).2 := by
  intro e c h y hy
  rw [resolve_snd] at hy
  obtain ⟨x, hx, rfl⟩ := List.mem_map.1 hy
  cases x with
  | label n =>
    by_cases hn : n = "@here"
    · rw [hn, c.inline_here]; rfl
    · obtain ⟨v, hv⟩ := (h _ hx).1 n rfl hn
      rw [c.inline_label hn, labelNode_valueNow hv]; rfl
  | sizeOf n => exact absurd rfl ((h _ hx).2 n)
  | _ => rfl

/-- **C08 (snapshot, general form).** If every name used by an expression can be computed when the
expression is read, the expression kept for the use mentions no name at all, so its value is the
same in every table: nothing that happens to those names later can change it. -/
theorem snapshot_general (c : CoreSt) (e : List Node) (h : AllNow c e) (env1 env2 : Env) :
    evaluate env1 (resolve c e).2 = evaluate env2 (resolve c e).2 :=
  evaluate_closed env1 env2 _ (resolve_closed e c h)

theorem labelNode_undefined (c : CoreSt) (n : String) (h : c.symtab.get n = none) :
    labelNode c n = .label n := by
  simp [labelNode, h]

theorem deferred_stays_symbolic (c : CoreSt) (n : String) (hn : n ≠ "@here")
    (h : c.symtab.get n = none) : (resolve c [.label n]).2 = [.label n] := by
  rw [resolve_snd, List.map_singleton, c.inline_label hn, labelNode_undefined c n h]

theorem deferred_stays_symbolic_lazy (c : CoreSt) (n : String) (hn : n ≠ "@here")
    (body : List Node) (m : List (String × String)) (h : c.symtab.get n = some ⟨.expr body, m⟩)
    (hv : evaluate c.symtab body = .unsolved) : (resolve c [.label n]).2 = [.label n] := by
  rw [resolve_snd, List.map_singleton, c.inline_label hn]
  simp [labelNode, h, hv]

theorem applyLink_final (c1 c2 : CoreSt) (data : List Nat) (l : Link)
    (h : evaluate c1.symtab l.expr = evaluate c2.symtab l.expr) :
    applyLink c1 data l = applyLink c2 data l := by
  unfold applyLink; rw [h]

theorem applyLink_unsolved (c : CoreSt) (data : List Nat) (l : Link)
    (h : evaluate c.symtab l.expr = .unsolved) : applyLink c data l = .error ⟨.unsolved, l.loc⟩ := by
  unfold applyLink; rw [h]

theorem applyLink_byte (c : CoreSt) (data : List Nat) (l : Link) (v : I32)
    (hk : l.kind = .byte) (h : evaluate c.symtab l.expr = .ok v) (hr : u32 v ≤ 255)
    (ho : l.offset < data.length) : applyLink c data l = .ok (patchAt data l.offset [lowByte v]) := by
  unfold applyLink; rw [h]; simp [hk, Nat.not_lt.mpr hr, ho]

theorem applyLink_word (c : CoreSt) (data : List Nat) (l : Link) (v : I32)
    (hk : l.kind = .word) (h : evaluate c.symtab l.expr = .ok v) (hr : u32 v ≤ 65535)
    (ho : l.offset + 1 < data.length) :
    applyLink c data l = .ok (patchAt data l.offset [u32 v % 256, u32 v / 256 % 256]) := by
  unfold applyLink; rw [h]; simp [hk, Nat.not_lt.mpr hr, ho]

/-- **C08 (deferred uses see the final value).** The image is produced by linking the state at the
END of the run: every deferred patch is evaluated in the final symbol table. -/
theorem deferred_sees_final (prog : List Stmt) (img : List Nat) (h : assembleAbs prog = .ok img) :
    ∃ s, run {} prog = .ok s ∧ checkRefs s.core s.core.hits = .ok () ∧
      applyLinks s.core s.core.data s.core.links = .ok img := by
  unfold assembleAbs at h
  split at h
  · simp at h
  · rename_i s hs
    refine ⟨s, hs, ?_⟩
    unfold link at h
    split at h
    · simp at h
    · rename_i u hu; exact ⟨hu, h⟩

theorem evaluate_add (env : Env) (a b : I32) : evaluate env [.val a, .val b, .add] = .ok (a + b) := by
  rw [evaluate_eq]; simp only [evalList, Node.access, pureStep_val, pureStep_add]

/-- **C08 (self update).** Redefining `X` as `X + 1` when `X` currently has the value `v` stores the
expression `v 1 +` (no reference to `X` is left), whose value is `v + 1` in any table. -/
theorem self_update (s : State) (x : String) (keep : Bool) (v : I32) (hx : x ≠ "@here")
    (h : valueNow s.core x v) :
    ∃ s', exec s (.redefine keep x [.label x, .val 1, .add]) = .ok s' ∧
      s'.core.symtab.get x = some ⟨.expr [.val v, .val 1, .add], metaOf s.core keep⟩ ∧
      (∀ env : Env, evaluate env [.val v, .val 1, .add] = .ok (v + 1)) ∧
      (∀ m, m ≠ x → s'.core.symtab.get m = s.core.symtab.get m) := by
  refine ⟨_, exec_redefine _ _ _ _, ?_, fun env => evaluate_add env v 1, ?_⟩
  · show (Eff.redefine (resolve s.core _).1 keep x (resolve s.core _).2).symtab.get x = _
    rw [redef_replaces]
    have : (resolve s.core [.label x, .val 1, .add]).2 = [.val v, .val 1, .add] := by
      rw [resolve_snd, List.map_cons, CoreSt.inline_label _ hx, labelNode_valueNow h]; rfl
    rw [this]
    simp [metaOf, resolve_curMeta]
  · intro m hm
    show (Eff.redefine (resolve s.core _).1 keep x (resolve s.core _).2).symtab.get m = _
    rw [redef_other _ _ _ _ _ hm, resolve_symtab]

/-- The self update can be repeated: afterwards `x` again has a value now, `v + 1`, read from the
expression just stored (`labelNode_expr`). -/
theorem self_update_valueNow (s s' : State) (x : String) (keep : Bool) (v : I32) (hx : x ≠ "@here")
    (h : valueNow s.core x v)
    (he : exec s (.redefine keep x [.label x, .val 1, .add]) = .ok s') :
    valueNow s'.core x (v + 1) := by
  obtain ⟨s2, h1, h2, h3, _⟩ := self_update s x keep v hx h
  rw [he] at h1; cases h1
  exact ⟨_, Or.inr ⟨_, h2, h3 _⟩⟩

example : (assembleAbs [.define false "X" [.val 5], .dbVal [.label "X"],
    .redefine false "X" [.label "X", .val 1, .add], .dbVal [.label "X"]]).toOption = some [5, 6] := by
  decide

example : (assembleAbs [.dbVal [.label "X"], .define false "X" [.val 5],
    .redefine false "X" [.val 9]]).toOption = some [9] := by
  decide

example : (assembleAbs [.label "X", .define false "X" [.val 5]]).toOption = none := by decide
example : (assembleAbs [.label "X", .undef "X", .define false "X" [.val 5],
    .dbVal [.label "X"]]).toOption = some [5] := by decide

example : valueNow ({ symtab := [("X", ⟨.val 7, []⟩)] } : CoreSt) "X" 7 := ⟨[], Or.inl rfl⟩

end Az65.Thm.C08
