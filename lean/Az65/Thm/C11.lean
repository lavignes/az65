import Az65.Thm.C10
import Std.Data.String.ToNat  -- `Nat.repr_injective`, for `entropy_injective`
/-
C11 — the built-in generators are exact.

* `count_eq`, `count_replay`: `@count N` generates the number tokens `0 1 … N-1`.
* `hex_roundtrip`, `bin_roundtrip`: the digits `@hex` / `@bin` produce parse back to the value.
* `each_eq`: `@each X, {t1 … tn} body @endeach` replays `body[X:=t1] … body[X:=tn]` in order.
* `if_skips`, `if_skips_nested`: a false `@if` skips up to the matching `@endif`.
* `entropy_injective`, `entropy_same`: `@entropy` strings.
* `labelKindOf_*`, `stringify_*`: pieces of `@string` / `@label`.

As in C10, each is about replay states, one skip or one piece on its own, not about the pump that
strings them together; nothing here is about `@parse` or about joining the pieces.
-/
namespace Az65.Thm.C11
open Az65 Az65.Thm.C10

/-- **`@count N`** records exactly the number tokens `0, 1, …, N-1` (at the location of the
directive). -/
theorem count_eq (n : Nat) (loc : Loc) :
    countToks n loc none = (List.range n).map (fun i => MTok.tok ⟨.num i, loc⟩) := by
  simp [countToks]

theorem count_length (n : Nat) (loc : Loc) : (countToks n loc none).length = n := by
  simp [countToks]

theorem count_zero (loc : Loc) : countToks 0 loc none = [] := by
  simp [countToks]

/-- With a look-ahead token already read, that token is re-queued *after* the generated ones. -/
theorem count_stash (n : Nat) (loc : Loc) (t : LTok) :
    countToks n loc (some t) = countToks n loc none ++ [.tok t] := by
  simp [countToks]

theorem replay_toks (l : List LTok) (ps : List String) (name : String) (args : List (List LTok))
    (loc : Loc) (inc : Option Loc) (ent : String) (k : Nat) (hk : l.length < k) :
    drain { args := ps, toks := l.map MTok.tok } k (initState name args loc inc ent) = l := by
  have h := replay_eq_subst { args := ps, toks := l.map MTok.tok } name args loc inc ent k
  rw [flatSubst_toks] at h
  exact h hk

/-- **`@count N` replays as `0 1 … N-1`.**  Draining the invocation `countF` pushes (a macro with
no parameters whose body is `countToks`) yields the tokens `0 1 … N-1` in order. -/
theorem count_replay (n : Nat) (loc : Loc) (name : String) (inc : Option Loc) (ent : String)
    (k : Nat) (hk : n < k) :
    drain { args := [], toks := countToks n loc none } k (initState name [] loc inc ent) =
      (List.range n).map (fun i => (⟨.num i, loc⟩ : LTok)) := by
  have e : countToks n loc none =
      ((List.range n).map (fun i => (⟨.num i, loc⟩ : LTok))).map MTok.tok := by simp [countToks]
  rw [e]
  exact replay_toks _ [] name [] loc inc ent k (by simpa using hk)

theorem count_replay_stash (n : Nat) (loc : Loc) (t : LTok) (name : String) (inc : Option Loc)
    (ent : String) (k : Nat) (hk : n + 1 < k) :
    drain { args := [], toks := countToks n loc (some t) } k (initState name [] loc inc ent) =
      (List.range n).map (fun i => (⟨.num i, loc⟩ : LTok)) ++ [t] := by
  have e : countToks n loc (some t) =
      ((List.range n).map (fun i => (⟨.num i, loc⟩ : LTok)) ++ [t]).map MTok.tok := by
    simp [countToks]
  rw [e]
  exact replay_toks _ [] name [] loc inc ent k (by simpa using hk)

theorem digitVal_hexDigit : ∀ d < 16, digitVal (hexDigit d) = d := by decide +kernel

theorem hexDigit_mem : ∀ d < 16, hexDigit d ∈ "0123456789abcdef".toList := by decide +kernel

theorem digitsRev_succ (b f n : Nat) : digitsRev b (f + 1) n =
    hexDigit (n % b) :: if n < b then [] else digitsRev b f (n / b) := by
  simp only [digitsRev, hexDigit]; split <;> rfl

theorem digitsRev_mem {b : Nat} (hb : 0 < b) : ∀ f n, ∀ c ∈ digitsRev b f n,
    ∃ d < b, c = hexDigit d := by
  intro f
  induction f with
  | zero => intro n c hc; cases hc
  | succ f ih =>
    intro n c hc
    rw [digitsRev_succ, List.mem_cons] at hc
    rcases hc with rfl | hc
    · exact ⟨n % b, Nat.mod_lt n hb, rfl⟩
    · split at hc
      · cases hc
      · exact ih _ c hc

theorem digitsRev_val (b : Nat) (hb2 : 2 ≤ b) (hb16 : b ≤ 16) :
    ∀ f n, n < f → (digitsRev b f n).foldr (fun c acc => acc * b + digitVal c) 0 = n := by
  intro f
  induction f with
  | zero => intro n h; omega
  | succ f ih =>
    intro n h
    have hd : n % b < 16 := Nat.lt_of_lt_of_le (Nat.mod_lt n (by omega)) hb16
    rw [digitsRev_succ, List.foldr_cons, digitVal_hexDigit _ hd]
    split
    · rw [List.foldr_nil, Nat.mod_eq_of_lt ‹_›]; omega
    · have hdiv : n / b < f := by
        have : n / b < n := Nat.div_lt_self (by omega) (by omega)
        omega
      rw [ih (n / b) hdiv, Nat.mul_comm]
      exact Nat.div_add_mod n b

/-- The `foldl` is the one `parseU32` runs. -/
theorem digitsOf_value (b : Nat) (hb2 : 2 ≤ b) (hb16 : b ≤ 16) (n : Nat) :
    (digitsOf b n).foldl (fun acc c => acc * b + digitVal c) 0 = n := by
  rw [digitsOf, List.foldl_reverse]
  exact digitsRev_val b hb2 hb16 (n + 1) n (by omega)

/-- **Round trip in any base `2 ≤ b ≤ 16`**: the digits produced for a 32-bit value parse back (as
the lexer parses the digits of a literal) to that value. -/
theorem parse_digitsOf (b : Nat) (hb2 : 2 ≤ b) (hb16 : b ≤ 16) (v : Nat) (hv : v < 2 ^ 32) :
    parseU32 b (digitsOf b v) = some v := by
  have hne : (digitsOf b v).isEmpty = false := by
    rw [digitsOf, digitsRev_succ]; simp
  have hv' : v < 4294967296 := hv
  simp [parseU32, hne, digitsOf_value b hb2 hb16, hv']

/-- **`@hex` round trip.**  The digits `@hex` produces for a 32-bit value parse back (as the lexer
parses the digits of a `$…` literal) to that value. -/
theorem hex_roundtrip (v : Nat) (hv : v < 2 ^ 32) : parseU32 16 (digitsOf 16 v) = some v :=
  parse_digitsOf 16 (by omega) (by omega) v hv

/-- **`@bin` round trip** (the digits of a `%…` literal). -/
theorem bin_roundtrip (v : Nat) (hv : v < 2 ^ 32) : parseU32 2 (digitsOf 2 v) = some v :=
  parse_digitsOf 2 (by omega) (by omega) v hv

/-- The strings pushed by `numberDirF`: the value the directive prints is the two's complement
`x.toNat` of the `i32` expression value (a negative value is printed as `ffff…`). -/
theorem hexDigits_roundtrip (x : BitVec 32) :
    parseU32 16 (hexDigits x.toNat).toList = some x.toNat := by
  rw [hexDigits, String.toList_ofList]; exact hex_roundtrip _ x.isLt

theorem binDigits_roundtrip (x : BitVec 32) :
    parseU32 2 (binDigits x.toNat).toList = some x.toNat := by
  rw [binDigits, String.toList_ofList]; exact bin_roundtrip _ x.isLt

/-- `parseU32` models `from_str_radix` only on buffers that hold digits of the radix; the produced
ones do (this and `bin_digits`). -/
theorem hex_digits_valid (v : Nat) : ∀ c ∈ digitsOf 16 v, c ∈ "0123456789abcdef".toList := by
  intro c hc
  rw [digitsOf, List.mem_reverse] at hc
  obtain ⟨d, hd, rfl⟩ := digitsRev_mem (by omega) _ _ c hc
  exact hexDigit_mem d hd

theorem bin_digits (v : Nat) : ∀ c ∈ digitsOf 2 v, c = '0' ∨ c = '1' := by
  intro c hc
  rw [digitsOf, List.mem_reverse] at hc
  obtain ⟨d, hd, rfl⟩ := digitsRev_mem (by omega) _ _ c hc
  obtain rfl | rfl : d = 0 ∨ d = 1 := by omega
  · exact .inl rfl
  · exact .inr rfl

theorem bin_digits_valid (v : Nat) : ∀ c ∈ digitsOf 2 v, digitVal c < 2 := by
  intro c hc
  rcases bin_digits v c hc with rfl | rfl <;> decide

/-- The replay states `eachF` returns: one per item, the item being the single argument.  `eachF`
(Model/Asm.lean) ends with this `items.map …` written out and does not use `eachStates`; no lemma
ties the two. -/
def eachStates (name : String) (items : List LTok) (loc : Loc) (ent : String) : List MacroState :=
  items.map fun t =>
    { name := name, args := [[t]], loc := loc, includedFrom := some loc, entropy := ent }

theorem substTok_single_length (t : LTok) (ent : String) (x : MTok) :
    (substTok [[t]] ent x).length ≤ 1 := by
  cases x with
  | tok u => simp [substTok]
  | entropy l => simp [substTok]
  | arg i => cases i <;> simp [substTok]

theorem flatSubst_single_length (body : List MTok) (t : LTok) (ent : String) :
    (flatSubst body [[t]] ent).length ≤ body.length := by
  induction body with
  | nil => simp [flatSubst]
  | cons x xs ih =>
    have := substTok_single_length t ent x
    simp only [flatSubst, List.flatMap_cons, List.length_append, List.length_cons] at ih ⊢
    omega

/-- **`@each X, {t1 … tn} body @endeach` = `body[X:=t1] … body[X:=tn]`.**  The states `eachF`
returns, drained one after the other in list order, give the body with the slot of `X` replaced by
`t1`, then by `t2`, …, in that order; each item is a single token.  That the pump does drain them
in list order — they go on the source stack first item on top (`peekF`, `.dir "Each"`) — is read
off the Model, not part of the statement. -/
theorem each_eq (X name : String) (body : List MTok) (items : List LTok) (loc : Loc)
    (ent : String) (n : Nat) (hn : body.length < n) :
    (eachStates name items loc ent).flatMap (drain { args := [X], toks := body } n) =
      items.flatMap (fun t => flatSubst body [[t]] ent) := by
  simp only [eachStates, List.flatMap_map]
  congr 1
  funext t
  exact replay_eq_subst { args := [X], toks := body } name [[t]] loc (some loc) ent n
    (Nat.lt_of_le_of_lt (flatSubst_single_length body t ent) hn)

theorem each_nil (X name : String) (body : List MTok) (loc : Loc) (ent : String) (n : Nat) :
    (eachStates name [] loc ent).flatMap (drain { args := [X], toks := body } n) = [] := rfl

/-- The body of `@each X` is recorded with `slotOf [X]`: exactly the *global* labels named `X`
become the slot. -/
theorem each_slot (X : String) (t : LTok) (i : Nat) :
    slotOf [X] t = .arg i ↔ i = 0 ∧ t.tok = .label .global X := by
  rw [record_slots_arg]
  constructor
  · rintro ⟨v, hv, hi⟩
    rw [List.idxOf?_singleton] at hi
    split at hi
    · simp_all
    · cases hi
  · rintro ⟨rfl, ht⟩
    exact ⟨X, ht, by simp⟩

theorem each_subst_X (X : String) (l : Loc) (t : LTok) (ent : String) :
    substTok [[t]] ent (slotOf [X] ⟨.label .global X, l⟩) = [t] := by
  rw [(each_slot X _ 0).2 ⟨rfl, rfl⟩]; rfl

/-- One iteration of `skipIfG` on a token `t`, in the shape of `C10.oneArgG_step`. -/
theorem skipIfG_step {σ : Type} {ops : TokOps σ} {s s' : σ} {t : LTok} {f level : Nat}
    (h : ops.next s = .ok (some t, s')) :
    skipIfG ops (f + 1) level s =
      if t.tok = .dir "If" then skipIfG ops f (level + 1) s'
      else if t.tok = .dir "EndIf" then
        if level = 1 then .ok ((), s') else skipIfG ops f (level - 1) s'
      else skipIfG ops f level s' := by
  conv => lhs; unfold skipIfG
  rw [h]
  split
  all_goals rename_i heq; cases heq
  · simp  -- `@if`
  · simp  -- `@endif`
  · simp_all [forall_ne_mk]  -- any other token

inductive BalIf : List LTok → Prop
  | nil : BalIf []
  | tok (t : LTok) (xs : List LTok) :
      t.tok ≠ .dir "If" → t.tok ≠ .dir "EndIf" → BalIf xs → BalIf (t :: xs)
  | grp (i e : LTok) (xs ys : List LTok) :
      i.tok = .dir "If" → e.tok = .dir "EndIf" → BalIf xs → BalIf ys →
      BalIf (i :: xs ++ e :: ys)

theorem skip_bal (body : List LTok) (hb : BalIf body) :
    ∀ (f level : Nat) (rest : List LTok) (core : CoreSt) (c : Loc), level ≥ 1 →
    skipIfG plainOps (body.length + f) level ⟨body ++ rest, core, c⟩ =
      skipIfG plainOps f level ⟨rest, core, lastLoc c body⟩ := by
  induction hb with
  | nil => intro f level rest core c _; simp [lastLoc]
  | tok t xs h1 h2 _ ih =>
    intro f level rest core c hl
    rw [List.length_cons, Nat.add_right_comm, List.cons_append,
      skipIfG_step (ParseLemmas.next_cons ..), if_neg h1, if_neg h2,
      ih f level rest core _ hl]
    rfl
  | grp i e xs ys hi he _ _ ihx ihy =>
    intro f level rest core c hl
    have hlen : (i :: xs ++ e :: ys).length + f = (xs.length + ((ys.length + f) + 1)) + 1 := by
      simp; omega
    -- consume `i` (one level deeper), `ihx` on `xs`, consume `e` (back to `level`), `ihy` on `ys`
    rw [hlen, List.cons_append, List.cons_append, List.append_assoc,
      skipIfG_step (ParseLemmas.next_cons ..), if_pos hi,
      ihx _ (level + 1) _ core _ (by omega), List.cons_append,
      skipIfG_step (ParseLemmas.next_cons ..), if_neg (by simp [he]),
      if_pos he, if_neg (by omega), Nat.add_sub_cancel, ihy f level rest core _ hl]
    simp [lastLoc, List.foldl_append]

/-- **A false `@if` skips to the MATCHING `@endif`.**  After `@if E` with `E = 0` the pump calls
`skipIfG … 1`.  If the tokens up to some `@endif` are properly nested in `@if … @endif` (so that
this `@endif` is the matching one), everything up to and including it is consumed and nothing of
it is contributed: the next token read is the first one of `rest`. -/
theorem if_skips_nested (body rest : List LTok) (endif : LTok) (core : CoreSt) (c : Loc) (f : Nat)
    (he : endif.tok = .dir "EndIf") (hb : BalIf body) (hf : f ≥ body.length + 1) :
    skipIfG plainOps f 1 ⟨body ++ endif :: rest, core, c⟩ = .ok ((), ⟨rest, core, endif.loc⟩) := by
  obtain ⟨k, rfl⟩ : ∃ k, f = body.length + (k + 1) := ⟨f - body.length - 1, by omega⟩
  rw [skip_bal body hb (k + 1) 1 (endif :: rest) core c (Nat.le_refl 1),
    skipIfG_step (ParseLemmas.next_cons ..)]
  simp [he]

theorem balIf_of_flat (body : List LTok)
    (h : ∀ t ∈ body, t.tok ≠ .dir "If" ∧ t.tok ≠ .dir "EndIf") : BalIf body := by
  induction body with
  | nil => exact .nil
  | cons t xs ih =>
    exact .tok t xs (h t (by simp)).1 (h t (by simp)).2
      (ih fun u hu => h u (List.mem_cons_of_mem _ hu))

/-- **A false `@if` contributes nothing** (no inner `@if`): the body up to the first `@endif` is
consumed. -/
theorem if_skips (body rest : List LTok) (endif : LTok) (core : CoreSt) (c : Loc) (f : Nat)
    (he : endif.tok = .dir "EndIf")
    (hb : ∀ t ∈ body, t.tok ≠ .dir "If" ∧ t.tok ≠ .dir "EndIf") (hf : f > body.length) :
    skipIfG plainOps f 1 ⟨body ++ endif :: rest, core, c⟩ = .ok ((), ⟨rest, core, endif.loc⟩) :=
  if_skips_nested body rest endif core c f he (balIf_of_flat body hb) (by omega)

/-- End of input inside the skipped region (`@endif` missing) is an error — at any nesting
level. -/
theorem if_skip_eoi (body : List LTok) (core : CoreSt) (c : Loc) (f level : Nat)
    (hb : BalIf body) (hl : level ≥ 1) (hf : f > body.length) :
    skipIfG plainOps f level ⟨body, core, c⟩ = .error ⟨.eoi, lastLoc c body⟩ := by
  obtain ⟨k, rfl⟩ : ∃ k, f = body.length + (k + 1) := ⟨f - body.length - 1, by omega⟩
  have := skip_bal body hb (k + 1) level [] core c hl
  rw [List.append_nil] at this
  rw [this]
  rfl

/-- An unmatched inner `@if` also runs into the end of input: the `@endif` that follows closes
the inner one, not the skipped one. -/
theorem if_skip_inner_unclosed (i endif : LTok) (xs : List LTok) (core : CoreSt) (c : Loc)
    (f : Nat) (hi : i.tok = .dir "If") (he : endif.tok = .dir "EndIf") (hx : BalIf xs)
    (hf : f > xs.length + 2) :
    skipIfG plainOps f 1 ⟨i :: xs ++ [endif], core, c⟩ = .error ⟨.eoi, endif.loc⟩ := by
  have hb : BalIf (i :: xs ++ endif :: []) := .grp i endif xs [] hi he hx .nil
  have := if_skip_eoi (i :: xs ++ [endif]) core c f 1 hb (Nat.le_refl 1) (by simp; omega)
  rw [this]; simp [lastLoc, List.foldl_append]

/-- With enough fuel the skip loop never fails for another reason than the end of input. -/
theorem if_skip_total (toks : List LTok) :
    ∀ (core : CoreSt) (c : Loc) (f level : Nat), f > toks.length →
    (∃ s', skipIfG plainOps f level ⟨toks, core, c⟩ = .ok ((), s')) ∨
    (∃ l, skipIfG plainOps f level ⟨toks, core, c⟩ = .error ⟨.eoi, l⟩) := by
  induction toks with
  | nil =>
    intro core c f level hf
    obtain ⟨k, rfl⟩ : ∃ k, f = k + 1 := ⟨f - 1, by simp at hf; omega⟩
    exact .inr ⟨c, rfl⟩
  | cons t xs ih =>
    intro core c f level hf
    obtain ⟨k, rfl⟩ : ∃ k, f = k + 1 := ⟨f - 1, by simp at hf; omega⟩
    have hk : k > xs.length := by simp at hf; omega
    rw [skipIfG_step (ParseLemmas.next_cons ..)]
    by_cases h1 : t.tok = .dir "If"
    · rw [if_pos h1]; exact ih _ _ _ _ hk
    · by_cases h2 : t.tok = .dir "EndIf"
      · rw [if_neg h1, if_pos h2]
        split
        · exact .inl ⟨_, rfl⟩
        · exact ih _ _ _ _ hk
      · rw [if_neg h1, if_neg h2]; exact ih _ _ _ _ hk

/-- The string of expansion number `n`.  `macroInvokeF`, `countF`, `numberDirF`, `getMetaF` and
`eachF` (Model/Asm.lean) each write `"__" ++ toString s.entropy` and do not use `entropyOf`; no lemma
ties the two, and `entropy_injective` is stated on the expression itself. -/
def entropyOf (n : Nat) : String := "__" ++ toString n

/-- **`@entropy` strings are injective in the expansion counter**: the string is `"__"` followed by
the counter in decimal.  That every expansion takes a counter value of its own
(`entropy := s.entropy + 1` in `macroInvokeF`, `countF`, `eachF`, …) is read off the Model, not
stated here. -/
theorem entropy_injective (a b : Nat) (h : "__" ++ toString a = "__" ++ toString b) : a = b := by
  rw [String.append_right_inj] at h
  exact Nat.repr_injective h

theorem entropyOf_ne (a b : Nat) (h : a ≠ b) : entropyOf a ≠ entropyOf b :=
  fun e => h (entropy_injective a b e)

/-- **Within one expansion every `@entropy` is the same string**: each entropy slot of the body
is replaced by the (single) string of the replay state, which the replay loop never changes
(`entropy_kept`). -/
theorem entropy_same (args : List (List LTok)) (ent : String) (loc : Loc) :
    substTok args ent (.entropy loc) = [⟨.str ent, loc⟩] := rfl

theorem entropy_same_all (locs : List Loc) (args : List (List LTok)) (ent : String) :
    flatSubst (locs.map MTok.entropy) args ent = locs.map (fun l => (⟨.str ent, l⟩ : LTok)) := by
  rw [flatSubst, List.flatMap_map, List.map_eq_flatMap]; rfl

theorem entropy_kept (m : Macro) (f : Nat) (st st' : MacroState) (t : LTok) (hwf : WF m st)
    (hf : 2 * (m.toks.length - st.macroOff) + 1 ≤ f) (h : macroNext m f st = (some t, st')) :
    st'.entropy = st.entropy :=
  ((macroNext_flat m f st hwf hf).1 t st' h).2.2.2

theorem startsWith_dot (s : String) : s.startsWith "." = true ↔ s.toList.head? = some '.' := by
  rw [String.startsWith_string_iff]
  cases s.toList <;> simp [List.cons_prefix_cons, eq_comm]

/-- **`@label` classification**: no dot — a global label; one dot, in front — a local label;
one dot, not in front — a direct (`global.local`) label; two or more dots — not a label (the
directive reports an error). -/
theorem labelKindOf_string (s : String) :
    labelKindOf s =
      (if s.toList.count '.' = 0 then some .global
       else if s.toList.count '.' = 1 then
         (if s.toList.head? = some '.' then some .loc else some .direct)
       else none) := by
  rw [labelKindOf, ← List.count_eq_length_filter]
  split
  · simp [*]
  · rename_i h; simp only [h, startsWith_dot]; rfl
  · rw [if_neg ‹_›, if_neg ‹_›]

theorem labelKindOf_global (cs : List Char) (h : cs.count '.' = 0) :
    labelKindOf (String.ofList cs) = some .global := by
  simp [labelKindOf_string, h]

theorem labelKindOf_loc (cs : List Char) (h : cs.count '.' = 1) (hd : cs.head? = some '.') :
    labelKindOf (String.ofList cs) = some .loc := by
  simp [labelKindOf_string, h, hd]

theorem labelKindOf_direct (cs : List Char) (h : cs.count '.' = 1) (hd : cs.head? ≠ some '.') :
    labelKindOf (String.ofList cs) = some .direct := by
  simp [labelKindOf_string, h, hd]

theorem labelKindOf_none (cs : List Char) (h : cs.count '.' ≥ 2) :
    labelKindOf (String.ofList cs) = none := by
  simp [labelKindOf_string, show cs.count '.' ≠ 0 by omega, show cs.count '.' ≠ 1 by omega]

/-! **Pieces of `@string` / `@label`** (`stringify_*`): a string or label token contributes its text,
a number its lower-case hexadecimal digits (no prefix); a line break, a comment, a directive or a
flag is no piece. -/

theorem stringify_str (a : Arch) (s : String) : stringify a (.str s) = some s := rfl
theorem stringify_label (a : Arch) (k : LabelKind) (s : String) :
    stringify a (.label k s) = some s := rfl
theorem stringify_num (a : Arch) (v : Nat) :
    stringify a (.num v) = some (String.ofList (digitsOf 16 v)) := rfl
theorem stringify_num_hex (a : Arch) (v : Nat) : stringify a (.num v) = some (hexDigits v) := rfl
theorem stringify_none (a : Arch) :
    stringify a .newline = none ∧ stringify a .comment = none ∧
    (∀ n, stringify a (.dir n) = none) ∧ (∀ n, stringify a (.flag n) = none) :=
  ⟨rfl, rfl, fun _ => rfl, fun _ => rfl⟩

section examples
def l1 : Loc := { file := 0, line := 3, col := 7 }
def X : LTok := ⟨.label .global "X", l0⟩
def ifT : LTok := ⟨.dir "If", l0⟩
def endifT : LTok := ⟨.dir "EndIf", l0⟩

example : countToks 3 l1 none = [.tok ⟨.num 0, l1⟩, .tok ⟨.num 1, l1⟩, .tok ⟨.num 2, l1⟩] := rfl
example : drain { args := [], toks := countToks 3 l1 none } 10 (initState "c" [] l1 none "__0") =
    [⟨.num 0, l1⟩, ⟨.num 1, l1⟩, ⟨.num 2, l1⟩] := by decide

example : digitsOf 16 48879 = "beef".toList := by decide
example : digitsOf 2 5 = "101".toList := by decide
example : digitsOf 16 0 = ['0'] := by decide
example : parseU32 16 (digitsOf 16 48879) = some 48879 := hex_roundtrip _ (by decide)
example : digitsOf 16 (BitVec.toNat (-1#32)) = "ffffffff".toList := by decide

/-- `@each X, {5 6} @db X @endeach` replays `@db 5 @db 6`. -/
example : (eachStates "e" [n5, n6] l0 "__0").flatMap
      (drain { args := ["X"], toks := [db, X].map (slotOf ["X"]) } 5) = [db, n5, db, n6] := by
  decide
example : [n5, n6].flatMap (fun t => flatSubst ([db, X].map (slotOf ["X"])) [[t]] "__0") =
    [db, n5, db, n6] := by decide

/-- `5 @if 6 @endif 5 @endif 6` (inner pair kept together, the skip ends at the second `@endif`) -/
example : skipIfG plainOps 10 1 ⟨[n5, ifT, n6, endifT, n5, endifT, n6], {}, l0⟩ =
    .ok ((), ⟨[n6], {}, l0⟩) :=
  if_skips_nested [n5, ifT, n6, endifT, n5] [n6] endifT {} l0 10 rfl
    (.tok n5 _ (by decide) (by decide)
      (.grp ifT endifT [n6] [n5] rfl rfl (.tok n6 [] (by decide) (by decide) .nil)
        (.tok n5 [] (by decide) (by decide) .nil))) (by decide)

example : skipIfG plainOps 10 1 ⟨[n5, n6], {}, l0⟩ = .error ⟨.eoi, l0⟩ := rfl

example : entropyOf 3 ≠ entropyOf 4 := entropyOf_ne 3 4 (by decide)

example : labelKindOf (String.ofList "abc".toList) = some .global :=
  labelKindOf_global _ (by decide)
example : labelKindOf (String.ofList ".abc".toList) = some .loc :=
  labelKindOf_loc _ (by decide) (by decide)
example : labelKindOf (String.ofList "a.bc".toList) = some .direct :=
  labelKindOf_direct _ (by decide) (by decide)
example : labelKindOf (String.ofList "a.b.c".toList) = none :=
  labelKindOf_none _ (by decide)
example : stringify .z80 (.num 255) = some "ff" := by decide
end examples

end Az65.Thm.C11

