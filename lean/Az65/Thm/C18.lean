import Az65.Model.Tables
/-
C18 — case, spacing and comments never change output; literals mean what the docs say.
Theorems over the name tables REGENERATED from the source on every run (`Az65/Gen/Names.lean`), and
over the literal / escape functions of the lexer Model.  The spacing part is `Thm/C18Ws.lean`.
-/
namespace Az65.Thm.C18
open Az65

def upperOf (s : String) : List Char := s.toList.map Char.toUpper
def lowerOf (s : String) : List Char := s.toList.map Char.toLower

/-! ### strings as numbers

The kernel compares two string literals by re-encoding both to UTF-8, every time (≈ 1.7k heartbeats
a comparison, and `String.toList` of a literal ≈ 20k); numbers it compares at once.  The two table
checks below are therefore run on the codes of the strings, and on each spelling's characters
computed once. -/

/-- Bytes, each plus one, as digits in base 257 (plus one, so that trailing zero bytes count and the
code is injective). -/
def codeL : List UInt8 → Nat
  | [] => 0
  | b :: l => b.toNat + 1 + 257 * codeL l

theorem codeL_inj : ∀ {l l' : List UInt8}, codeL l = codeL l' → l = l'
  | [], [], _ => rfl
  | [], c :: l, h | c :: l, [], h => by simp only [codeL] at h; omega
  | c :: l, c' :: l', h => by
    simp only [codeL] at h
    have h1 := c.toNat_lt
    have h2 := c'.toNat_lt
    rw [UInt8.toNat_inj.mp (by omega : c.toNat = c'.toNat), codeL_inj (by omega : codeL l = codeL l')]

def code (s : String) : Nat := codeL s.toByteArray.data.toList

theorem code_inj {s t : String} (h : code s = code t) : s = t :=
  String.toByteArray_inj.mp (ByteArray.ext (Array.toList_inj.mp (codeL_inj h)))

theorem beq_code (s t : String) : (s == t) = Nat.beq (code s) (code t) := by
  by_cases h : s = t
  · subst h; simp
  · have : Nat.beq (code s) (code t) = false :=
      Bool.eq_false_iff.mpr fun hc => h (code_inj (Nat.eq_of_beq_eq_true hc))
    simp [h, this]

/-- Every row's spelling is all lower case or all upper case, and the table also holds the
other-case spelling of the same name. -/
def casePairs (tbl : List (String × String)) : Bool :=
  tbl.all fun (sp, v) =>
    (sp.toList == lowerOf sp || sp.toList == upperOf sp) &&
    tbl.any (fun (sp2, v2) => v2 == v && sp2.toList == upperOf sp) &&
    tbl.any (fun (sp2, v2) => v2 == v && sp2.toList == lowerOf sp)

/-- `casePairs` over the table with every spelling turned into its characters once and every name
into its code. -/
def casePairsC (tbl : List (String × String)) : Bool :=
  (tbl.map fun p => (p.1.toList, code p.2)).all fun p =>
    (p.1 == p.1.map Char.toLower || p.1 == p.1.map Char.toUpper) &&
    (tbl.map fun p => (p.1.toList, code p.2)).any (fun q => Nat.beq q.2 p.2 && q.1 == p.1.map Char.toUpper) &&
    (tbl.map fun p => (p.1.toList, code p.2)).any (fun q => Nat.beq q.2 p.2 && q.1 == p.1.map Char.toLower)

theorem casePairs_eq (tbl : List (String × String)) : casePairs tbl = casePairsC tbl := by
  unfold casePairs casePairsC
  simp only [List.all_map, List.any_map]
  congr 1; funext ⟨sp, v⟩
  simp only [Function.comp_def, beq_code, upperOf, lowerOf]

/-- **C18 (names in both cases).**  In the directive table, the operation, register and flag tables
of the Z80 and the SM83 and the operation and register tables of the 6502, as regenerated from the
source, every spelling is all lower case or all upper case and its other-case spelling is a row for
the same name (`casePairs`).  (`Gen.mos6502FlagSpell`, an empty table, is not in the conjunction.) -/
theorem names_case_pairs :
    casePairs Gen.directiveSpell = true ∧
    casePairs Gen.z80OpSpell = true ∧ casePairs Gen.z80RegSpell = true ∧ casePairs Gen.z80FlagSpell = true ∧
    casePairs Gen.sm83OpSpell = true ∧ casePairs Gen.sm83RegSpell = true ∧ casePairs Gen.sm83FlagSpell = true ∧
    casePairs Gen.mos6502OpSpell = true ∧ casePairs Gen.mos6502RegSpell = true := by
  simp only [casePairs_eq]
  refine ⟨?_, ?_, ?_, ?_, ?_, ?_, ?_, ?_, ?_⟩ <;> decide +kernel

/-- A spelling never names two different things (the tables are functions). -/
def functional (tbl : List (String × String)) : Bool :=
  tbl.all fun (sp, v) => tbl.all fun (sp2, v2) => sp2 != sp || v2 == v

def functionalC (tbl : List (String × String)) : Bool :=
  (tbl.map fun p => (code p.1, p.2)).all fun p =>
    (tbl.map fun p => (code p.1, p.2)).all fun q => !(Nat.beq q.1 p.1) || q.2 == p.2

theorem functional_eq (tbl : List (String × String)) : functional tbl = functionalC tbl := by
  unfold functional functionalC
  simp only [List.all_map]
  congr 1; funext ⟨sp, v⟩; congr 1; funext ⟨sp2, v2⟩
  exact congrArg (fun b => !b || v2 == v) (beq_code sp2 sp)

theorem names_functional :
    functional Gen.directiveSpell = true ∧ functional Gen.symbolSpell = true ∧
    functional Gen.z80OpSpell = true ∧ functional Gen.z80RegSpell = true ∧ functional Gen.z80FlagSpell = true ∧
    functional Gen.sm83OpSpell = true ∧ functional Gen.sm83RegSpell = true ∧ functional Gen.sm83FlagSpell = true ∧
    functional Gen.mos6502OpSpell = true ∧ functional Gen.mos6502RegSpell = true := by
  simp only [functional_eq]
  refine ⟨?_, ?_, ?_, ?_, ?_, ?_, ?_, ?_, ?_, ?_⟩ <;> decide +kernel

/-- The single-character escapes name the characters the documentation says. -/
theorem escape_values :
    escapeChar 'n' = some (Char.ofNat 10) ∧ escapeChar 'r' = some (Char.ofNat 13) ∧
    escapeChar 't' = some (Char.ofNat 9) ∧ escapeChar '\\' = some (Char.ofNat 92) ∧
    escapeChar '0' = some (Char.ofNat 0) ∧ escapeChar '"' = some (Char.ofNat 34) := by decide

/-- The UTF-8 encoding of a code point `hh < $80` is the one byte `hh`.  What ties this to "`\$hh`
contributes exactly the byte `hh`" is read off the Model, not stated: `lexChar` keeps the escape as
the character `Char.ofNat hh` in its buffer (arms `inHexStringEscape2`, `inHexCharEscape2`), and
the bytes of a string are `utf8OfChars` of its characters, that is `utf8EncodeChar` of each
(`dbItem` in Model/Stmt.lean for `@db "…"`, the arm `inChar` for a character literal).  For
`$80 ≤ hh < 256` the claim is FALSE, see `escape_high_defect`: strings are Rust `String`s end to
end, the byte is pushed as a `char` and encoded as two UTF-8 bytes — a recorded known finding. -/
theorem escape_bytes_partial (hh : Nat) (h : hh < 128) : utf8EncodeChar hh = [hh] := by
  simp [utf8EncodeChar, h]

theorem escape_high_defect (hh : Nat) (h1 : 128 ≤ hh) (h2 : hh < 256) :
    utf8EncodeChar hh = [0xC0 + hh / 64, 0x80 + hh % 64] := by
  have : ¬ hh < 128 := by omega
  have : hh < 2048 := by omega
  simp [utf8EncodeChar, *]

theorem hex_digit_values :
    ("0123456789abcdef".toList.map digitVal) = List.range 16 ∧
    ("ABCDEF".toList.map digitVal) = [10, 11, 12, 13, 14, 15] := by decide

/-- A number literal's value is the positional value of its digits (any base), and a literal that
does not fit 32 bits is rejected, never wrapped. -/
theorem literal_value (radix : Nat) (digits : List Char) (v : Nat)
    (h : parseU32 radix digits = some v) :
    v = digits.foldl (fun acc c => acc * radix + digitVal c) 0 ∧ v < 4294967296 := by
  unfold parseU32 at h
  split at h
  · simp at h
  · simp only [] at h
    split at h
    · simp at h; exact ⟨h.symm, by omega⟩
    · simp at h

/-- **C18 (character literals, ASCII).**  The little-endian number of the UTF-8 bytes of a code
point below 128 is the code point.  The statement mentions `utf8EncodeChar` and `leU32` only; that
the lexer's value of a character literal is this number is read off the Model: `lexChar`, arm
`inChar` at the closing `'`, returns `.num (leU32 (utf8OfChars buf))`, and `utf8OfChars` is
`utf8EncodeChar` character by character. -/
theorem char_literal_ascii (c : Nat) (h : c < 128) : leU32 (utf8EncodeChar c) = c := by
  simp [utf8EncodeChar, h, leU32]

end Az65.Thm.C18
