import Az65.Model.Intern
/-
C19 — interned strings stay valid and distinct for the lifetime of the run.

A Model handle is (buffer index, start, length) and cannot dangle; the condition under which the
raw pointers of the Rust do not is `CapOk` (`no_realloc`).  What keeps a handle reading the same
bytes is that buffers change by appending alone (`Grows`, `resolve_mono`, `get_stable`).
-/
namespace Az65.Thm.C19
open Az65.Model.Intern

theorem nextPow2Aux_ge (n : Nat) : ∀ (f p : Nat), 0 < p → n ≤ p * 2 ^ f → n ≤ nextPow2Aux f p n := by
  intro f
  induction f with
  | zero => intro p _ h; simpa [nextPow2Aux] using h
  | succ f ih =>
    intro p hp h
    unfold nextPow2Aux
    split
    · assumption
    · apply ih (2 * p) (by omega)
      rw [Nat.pow_succ] at h
      calc n ≤ p * (2 ^ f * 2) := h
        _ = 2 * p * 2 ^ f := by rw [Nat.mul_comm (2 ^ f) 2, ← Nat.mul_assoc, Nat.mul_comm p 2]

theorem nextPow2_ge (n : Nat) : n ≤ nextPow2 n := by
  unfold nextPow2
  apply nextPow2Aux_ge n (n + 1) 1 (by omega)
  have := @Nat.lt_two_pow_self (n + 1)
  omega

/-- Every backing buffer's length is within its capacity: the one fact that stands between the
raw-pointer handles and a dangling reference (a `Vec` does not move while `len ≤ capacity`). -/
def CapOk (st : St) : Prop :=
  (∀ b ∈ st.old, b.data.length ≤ b.cap) ∧ st.cur.data.length ≤ st.cur.cap

theorem capOk_init : CapOk init := by simp [CapOk, init]

theorem capOk_buffer (st : St) (bytes : List Nat) (h : CapOk st) : CapOk (buffer st bytes).1 := by
  obtain ⟨h1, h2⟩ := h
  unfold buffer CapOk
  split
  · have := nextPow2_ge (max st.cur.cap bytes.length + 1)
    refine ⟨fun b hb => ?_, by simp only [List.nil_append]; omega⟩
    rcases List.mem_append.1 hb with hb | hb
    · exact h1 b hb
    · rw [List.mem_singleton.1 hb]; exact h2
  · exact ⟨h1, by simp only [List.length_append]; omega⟩

theorem capOk_intern (st : St) (bytes : List Nat) (h : CapOk st) : CapOk (intern st bytes).1 := by
  unfold intern
  split
  · exact h
  · exact capOk_buffer st bytes h

/-- What every `intern` preserves holds after any history. -/
theorem runOps_inv {J : St → Prop} (h : ∀ st op, J st → J (intern st op).1) :
    ∀ (ops : List (List Nat)) (st : St), J st → J (runOps st ops).1
  | [], _, hJ => hJ
  | op :: ops, st, hJ => runOps_inv h ops _ (h st op hJ)

/-- **C19 (no reallocation).**  After any history of intern operations every buffer is within
its capacity. -/
theorem no_realloc (ops : List (List Nat)) : CapOk (runOps init ops).1 :=
  runOps_inv capOk_intern ops init capOk_init

/-- Buffers are append-only: `st'` has the buffers of `st`, with bytes added at the end of the
current one and further buffers after it. -/
def Grows (st st' : St) : Prop :=
  ∃ extra more, st'.bufs = st.old ++ { st.cur with data := st.cur.data ++ extra } :: more

theorem resolve_mono {st st' : St} (hg : Grows st st') {h : Handle} {c : List Nat}
    (hr : resolve st h = some c) : resolve st' h = some c := by
  obtain ⟨extra, more, hb⟩ := hg
  unfold resolve St.bufs at hr
  unfold resolve
  rw [hb]
  rw [List.getElem?_append] at hr ⊢
  by_cases h1 : h.buf < st.old.length
  · rwa [if_pos h1] at hr ⊢
  · rw [if_neg h1] at hr ⊢
    cases hj : h.buf - st.old.length with
    | succ j => simp [hj] at hr
    | zero =>
      simp only [hj, List.getElem?_cons_zero] at hr ⊢
      split at hr
      · rename_i hle
        rwa [if_pos (by simp only [List.length_append]; omega),
          List.drop_append_of_le_length (by omega),
          List.take_append_of_le_length (by simp only [List.length_drop]; omega)]
      · cases hr

theorem buffer_grows (st : St) (bytes : List Nat) : Grows st (buffer st bytes).1 := by
  unfold buffer
  split
  · exact ⟨[], [⟨nextPow2 (max st.cur.cap bytes.length + 1), bytes⟩], by simp [St.bufs]⟩
  · exact ⟨bytes, [], rfl⟩

theorem resolve_new (st : St) (bytes : List Nat) :
    resolve (buffer st bytes).1 (buffer st bytes).2 = some bytes := by
  by_cases hc : st.cur.cap < st.cur.data.length + bytes.length <;>
    simp [resolve, buffer, St.bufs, hc]

theorem resolve_intern (st : St) (bytes : List Nat) (h : Handle) (c : List Nat)
    (hr : resolve st h = some c) : resolve (intern st bytes).1 h = some c := by
  unfold intern
  split
  · exact hr
  · exact resolve_mono (buffer_grows st bytes) hr

def MapOk (st : St) : Prop := ∀ c h, (c, h) ∈ st.map → resolve st h = some c

theorem lookup_some {m : List (List Nat × Handle)} {bytes : List Nat} {h : Handle}
    (hl : lookup m bytes = some h) : (bytes, h) ∈ m := by
  induction m with
  | nil => simp [lookup] at hl
  | cons p r ih =>
    obtain ⟨c, h'⟩ := p
    simp only [lookup] at hl
    split at hl
    · rename_i hc; simp at hl; simp [hc, hl]
    · simp [ih hl]

theorem lookup_none {m : List (List Nat × Handle)} {bytes : List Nat}
    (hl : lookup m bytes = none) : ∀ h, (bytes, h) ∉ m := by
  induction m with
  | nil => simp
  | cons p r ih =>
    obtain ⟨c, h'⟩ := p
    simp only [lookup] at hl
    split at hl
    · simp at hl
    · rename_i hc
      intro h hm
      simp only [List.mem_cons, Prod.mk.injEq] at hm
      rcases hm with hm | hm
      · exact hc hm.1.symm
      · exact ih hl h hm

theorem buffer_map (st : St) (bytes : List Nat) : (buffer st bytes).1.map = st.map := by
  unfold buffer; split <;> rfl

theorem intern_spec (st : St) (bytes : List Nat) (hm : MapOk st) :
    MapOk (intern st bytes).1 ∧ (bytes, (intern st bytes).2) ∈ (intern st bytes).1.map := by
  unfold intern
  split
  · exact ⟨hm, lookup_some ‹_›⟩
  · refine ⟨fun c h hin => ?_, List.mem_cons_self⟩
    rcases List.mem_cons.1 hin with e | hin
    · cases e; exact resolve_new st bytes
    · rw [buffer_map] at hin
      exact resolve_mono (buffer_grows st bytes) (hm c h hin)

theorem intern_resolves (st : St) (bytes : List Nat) (hm : MapOk st) :
    resolve (intern st bytes).1 (intern st bytes).2 = some bytes :=
  (intern_spec st bytes hm).1 _ _ (intern_spec st bytes hm).2

/-- **C19 (stability).**  Every handle returned anywhere in a history still resolves, at the end
of the history, to exactly the text it was created from.  (`resolve` is the read through the raw
pointer; `get`, which also probes the set, is not in the statement.) -/
theorem get_stable : ∀ (ops : List (List Nat)) (st : St), MapOk st →
    let r := runOps st ops
    MapOk r.1 ∧ r.2.length = ops.length ∧
      ∀ i (hi : i < ops.length) (hi' : i < r.2.length), resolve r.1 r.2[i] = some ops[i] := by
  intro ops
  induction ops with
  | nil => intro st hm; exact ⟨hm, rfl, by intro i hi; simp at hi⟩
  | cons op ops ih =>
    intro st hm
    have hm1 := (intern_spec st op hm).1
    obtain ⟨h1, h2, h3⟩ := ih (intern st op).1 hm1
    refine ⟨h1, by simp [runOps, h2], ?_⟩
    intro i hi hi'
    cases i with
    | zero =>
      simp only [runOps, List.getElem_cons_zero]
      -- stability of the first handle through the rest of the history
      have h0 := intern_resolves st op hm
      exact runOps_inv (J := fun st => resolve st _ = some op)
        (fun st op' h => resolve_intern st op' _ _ h) ops _ h0
    | succ i =>
      simp only [runOps, List.getElem_cons_succ]
      exact h3 i (by simpa using hi) (by simpa [runOps] using hi')

/-- Interning a text again right away gives the same handle and leaves the state as it is. -/
theorem intern_idempotent (st : St) (bytes : List Nat) :
    intern (intern st bytes).1 bytes = ((intern st bytes).1, (intern st bytes).2) := by
  unfold intern
  cases hl : lookup st.map bytes with
  | some h => simp [hl]
  | none => simp [lookup]

/-- **C19 (a handle names one text).**  Two operations of one history that returned the same handle
interned the same text: `get_stable` gives both handles their text in the one final state. -/
theorem handles_injective (ops : List (List Nat)) (st : St) (hm : MapOk st) {i j : Nat}
    (hi : i < (runOps st ops).2.length) (hj : j < (runOps st ops).2.length)
    (h : (runOps st ops).2[i] = (runOps st ops).2[j]) : ops[i]? = ops[j]? := by
  obtain ⟨_, hl, hres⟩ := get_stable ops st hm
  have e1 := hres i (hl ▸ hi) hi
  have e2 := hres j (hl ▸ hj) hj
  rw [h, e2] at e1
  rw [List.getElem?_eq_getElem (hl ▸ hi), List.getElem?_eq_getElem (hl ▸ hj)]
  exact e1.symm

/-- The history `[a, b]`. -/
theorem intern_injective (st : St) (hm : MapOk st) (a b : List Nat)
    (h : (intern (intern st a).1 b).2 = (intern st a).2) : a = b := by
  have := handles_injective [a, b] st hm (i := 0) (j := 1) (by simp [runOps]) (by simp [runOps])
    (by simpa [runOps] using h.symm)
  simpa using this

theorem pairLe_trans (a b c : Nat × Nat) : pairLe a b = true → pairLe b c = true → pairLe a c = true := by
  simp only [pairLe, Bool.or_eq_true, decide_eq_true_eq, Bool.and_eq_true, beq_iff_eq]
  omega

theorem pairLe_total (a b : Nat × Nat) : (pairLe a b || pairLe b a) = true := by
  simp only [pairLe, Bool.or_eq_true, decide_eq_true_eq, Bool.and_eq_true, beq_iff_eq]
  omega

theorem pairLe_antisymm (a b : Nat × Nat) (h1 : pairLe a b = true) (h2 : pairLe b a = true) : a = b := by
  simp only [pairLe, Bool.or_eq_true, decide_eq_true_eq, Bool.and_eq_true, beq_iff_eq] at h1 h2
  apply Prod.ext <;> omega

/-- **C19 (metadata).**  Two orderings of the same key/value pairs have the same canonical
form, hence intern to the same handle. -/
theorem meta_perm (st : St) (l1 l2 : List (Nat × Nat)) (h : l1.Perm l2) :
    internMeta st l1 = internMeta st l2 := by
  unfold internMeta canon
  have : l1.mergeSort pairLe = l2.mergeSort pairLe := by
    apply List.Perm.eq_of_pairwise (le := fun a b => pairLe a b = true)
    · intro a b _ _ h1 h2; exact pairLe_antisymm a b h1 h2
    · exact List.pairwise_mergeSort pairLe_trans pairLe_total l1
    · exact List.pairwise_mergeSort pairLe_trans pairLe_total l2
    · exact ((List.mergeSort_perm l1 pairLe).trans h).trans (List.mergeSort_perm l2 pairLe).symm
  rw [this]

example : (runOps init [[1,2,3], List.replicate 40 7, [1,2,3], [9]]).2 =
    [⟨0,0,3⟩, ⟨1,0,40⟩, ⟨0,0,3⟩, ⟨1,40,1⟩] := by decide
example : MapOk init := by intro c h hin; simp [init] at hin
example : internMeta init [(2,1),(1,5)] = internMeta init [(1,5),(2,1)] :=
  meta_perm _ _ _ (List.Perm.swap _ _ _)

end Az65.Thm.C19
