import Az65.Spec.Sm83
import Az65.Thm.IsaCommon
/-
Property C02, Spec side: the SM83 oracle of `Az65/Spec/Sm83.lean` is self-consistent.

* `decode_enc`  — decoding the bytes of a well-formed instruction gives back that instruction, up to the
                  spelling of an `ldh` address (`norm`), and the untouched rest;
* `read_write`  — every instruction can be written in source and is read back as itself;
* `enc_bytes`   — every emitted byte is a byte;
* `cp_is_B8`    — `cp` is the row `B8..BF`; `C8..CF`, which lavignes/az65 emits, are eight other instructions;
* `allOpcodes_cover`, `decode_defined` — `allOpcodes` and the decoder have exactly the 500 defined opcodes.
-/
set_option linter.constructorNameAsVariable false  -- operands are called `c`, `d`; so are `Cond.c`, `R8.d`

namespace Az65.Thm.IsaSm83
open Az65.Spec Az65.Spec.Sm83 Az65.Thm.Isa

theorem withByte_byteOf {n : Int} (h : isByte n = true) (f : Int → Instr) (rest : List Nat) :
    withByte f (byteOf n :: rest) = some (f n, rest) := by
  simp only [isByte, Bool.and_eq_true, decide_eq_true_eq] at h
  have h1 : n.toNat < 256 := by omega
  have h2 : (n.toNat : Int) = n := by omega
  simp only [withByte, getByte, byteOf, h1, if_true, h2, Option.map_some]

theorem withByte_high {n : Int} (h : isHigh n = true) (f : Int → Instr) (rest : List Nat) :
    withByte f (byteOf n % 256 :: rest) = some (f (n % 256), rest) := by
  simp only [isHigh, isByte, Bool.and_eq_true, Bool.or_eq_true, decide_eq_true_eq] at h
  have h1 : n.toNat % 256 < 256 := by omega
  have h2 : ((n.toNat % 256 : Nat) : Int) = n % 256 := by omega
  simp only [withByte, getByte, byteOf, h1, if_true, h2, Option.map_some]

theorem withWord_word {n : Int} (h : isWord n = true) (f : Int → Instr) (rest : List Nat) :
    withWord f (loOf n :: hiOf n :: rest) = some (f n, rest) := by
  simp only [isWord, Bool.and_eq_true, decide_eq_true_eq] at h
  have h1 : n.toNat % 256 < 256 ∧ n.toNat / 256 < 256 := by omega
  have h2 : ((n.toNat % 256 + 256 * (n.toNat / 256) : Nat) : Int) = n := by omega
  simp only [withWord, getWord, loOf, hiOf, h1, and_self, if_true, h2, Option.map_some]

theorem withRel_rel {pc : Nat} {t : Int} (h : isRel pc t = true) (f : Int → Instr) (rest : List Nat) :
    withRel pc f (relOf pc t :: rest) = some (f t, rest) := by
  have hd : -128 ≤ jrDist pc t ∧ jrDist pc t ≤ 127 := by simpa [isRel] using h
  have hb : relOf pc t = (jrDist pc t % 256).toNat := rfl
  have hj : jrDist pc t = t - ((pc : Int) + 2) := rfl
  generalize relOf pc t = b at hb
  generalize jrDist pc t = d at hd hb hj
  have h1 : b < 256 := by omega
  have h2 : (pc : Int) + 2 + (if b < 128 then (b : Int) else (b : Int) - 256) = t := by split <;> omega
  simp only [withRel, getRel, h1, if_true, h2, Option.map_some]

theorem isBit_toNat {b : Int} (h : isBit b = true) : byteOf b < 8 ∧ ((byteOf b : Nat) : Int) = b := by
  simp only [isBit, Bool.and_eq_true, decide_eq_true_eq] at h; simp only [byteOf]; omega

theorem isRst_cases {t : Int} (h : isRst t = true) :
    t = 0 ∨ t = 8 ∨ t = 16 ∨ t = 24 ∨ t = 32 ∨ t = 40 ∨ t = 48 ∨ t = 56 := by
  simp only [isRst, Bool.and_eq_true, decide_eq_true_eq] at h; omega

theorem R8.idx_lt (r : R8) : r.idx < 8 := by cases r <;> decide
theorem R8.ofIdx_idx (r : R8) : R8.ofIdx r.idx = r := by cases r <;> rfl
theorem R8.idx_eq_six {r : R8} : r.idx = 6 ↔ r = .hlInd := by cases r <;> decide
theorem Alu.idx_lt (r : Alu) : r.idx < 8 := by cases r <;> decide
theorem Alu.ofIdx_idx (r : Alu) : Alu.ofIdx r.idx = r := by cases r <;> rfl
theorem Rot.idx_lt (r : Rot) : r.idx < 8 := by cases r <;> decide
theorem Rot.ofIdx_idx (r : Rot) : Rot.ofIdx r.idx = r := by cases r <;> rfl
theorem R16.idx_lt (r : R16) : r.idx < 4 := by cases r <;> decide
theorem R16s.idx_lt (r : R16s) : r.idx < 4 := by cases r <;> decide
theorem IndA.idx_lt (r : IndA) : r.idx < 4 := by cases r <;> decide
theorem Cond.idx_lt (r : Cond) : r.idx < 4 := by cases r <;> decide

/-- `decode` on an unprefixed opcode given by its fields. Stated for any `op` with `hop`, since `enc` writes
opcodes as `0x40 + 8 * d.idx + s.idx`, not as `64 * x + 8 * y + z`: the caller names `x y z` and `omega`
closes `hop`. -/
theorem decode_fields {op : Nat} (x y z : Nat) (hop : op = 64 * x + 8 * y + z) (hy : y < 8) (hz : z < 8)
    (hcb : ¬(x = 3 ∧ y = 1 ∧ z = 3)) (pc : Nat) (rest : List Nat) :
    decode pc (op :: rest) =
      match (generalizing := false) x with
      | 0 => decodeX0 pc y z rest
      | 1 => if y = 6 ∧ z = 6 then withPad .halt rest else some (.ldRR (R8.ofIdx y) (R8.ofIdx z), rest)
      | 2 => some (.alu (Alu.ofIdx y) (R8.ofIdx z), rest)
      | 3 => decodeX3 y z rest
      | _ => none := by
  subst hop
  have hcb : 64 * x + 8 * y + z ≠ 0xCB := by omega
  simp only [decode, hcb, if_false, decodeUn, xyz_fields hy hz]
  rfl

theorem decodeCB_fields {op : Nat} (x y z : Nat) (hop : op = 64 * x + 8 * y + z) (hy : y < 8) (hz : z < 8)
    (pc : Nat) (rest : List Nat) :
    decode pc (0xCB :: op :: rest) =
      match (generalizing := false) x with
      | 0 => some (.rot (Rot.ofIdx y) (R8.ofIdx z), rest)
      | 1 => some (.bit (y : Int) (R8.ofIdx z), rest)
      | 2 => some (.res (y : Int) (R8.ofIdx z), rest)
      | 3 => some (.set (y : Int) (R8.ofIdx z), rest)
      | _ => none := by
  subst hop
  simp only [decode, if_true, decodeCB, xyz_fields hy hz]
  rfl

/-- Decoding the bytes of a well-formed instruction gives back the instruction and the untouched rest, up
to `norm`. `ldh` takes its address as the offset `$10` or in full as `$FF10` (`isHigh`) and emits the byte
`$10` for either; `norm` identifies the two, since the decoder can return only one. By `norm_wf_enc`,
`norm i` is well-formed with the bytes of `i`. -/
theorem decode_enc (pc : Nat) (i : Instr) (rest : List Nat) (h : wf pc i = true) :
    decode pc (enc pc i ++ rest) = some (norm i, rest) := by
  cases i <;> simp only [wf] at h
  -- the decoder reads the operands of these back from the tables, whatever they are
  case ldRR d s =>
    have hds : ¬(d.idx = 6 ∧ s.idx = 6) := by
      rintro ⟨hd, hs⟩; rw [R8.idx_eq_six] at hd hs; simp [hd, hs] at h
    rw [enc, List.singleton_append,
      decode_fields 1 d.idx s.idx (by omega) (R8.idx_lt d) (R8.idx_lt s) (by omega)]
    simp only [hds, if_false, R8.ofIdx_idx, norm]
  case alu op r =>
    rw [enc, List.singleton_append,
      decode_fields 2 op.idx r.idx (by omega) (Alu.idx_lt op) (R8.idx_lt r) (by omega)]
    simp only [Alu.ofIdx_idx, R8.ofIdx_idx, norm]
  case rot op r =>
    rw [enc, List.cons_append, List.singleton_append,
      decodeCB_fields 0 op.idx r.idx (by omega) (Rot.idx_lt op) (R8.idx_lt r)]
    simp only [Rot.ofIdx_idx, R8.ofIdx_idx, norm]
  case bit b r =>
    rw [enc, List.cons_append, List.singleton_append,
      decodeCB_fields 1 (byteOf b) r.idx (by omega) (isBit_toNat h).1 (R8.idx_lt r)]
    simp only [(isBit_toNat h).2, R8.ofIdx_idx, norm]
  case res b r =>
    rw [enc, List.cons_append, List.singleton_append,
      decodeCB_fields 2 (byteOf b) r.idx (by omega) (isBit_toNat h).1 (R8.idx_lt r)]
    simp only [(isBit_toNat h).2, R8.ofIdx_idx, norm]
  case set b r =>
    rw [enc, List.cons_append, List.singleton_append,
      decodeCB_fields 3 (byteOf b) r.idx (by omega) (isBit_toNat h).1 (R8.idx_lt r)]
    simp only [(isBit_toNat h).2, R8.ofIdx_idx, norm]
  -- one opcode per operand value, each evaluated
  case ldNNSp nn | ldNNA nn | ldANN nn | jp nn | call nn => exact withWord_word h _ rest
  case jr t => exact withRel_rel h _ rest
  case addSp e | ldHlSp e => exact withByte_byteOf h _ rest
  case ldhNA n | ldhAN n => exact withByte_high h _ rest
  case jrCc c t => cases c <;> exact withRel_rel h _ rest
  case ldRpNN rp nn => cases rp <;> exact withWord_word h _ rest
  case jpCc c nn | callCc c nn => cases c <;> exact withWord_word h _ rest
  case ldRN r n => cases r <;> exact withByte_byteOf h _ rest
  case aluN op n => cases op <;> exact withByte_byteOf h _ rest
  case addHl rp | incRp rp | decRp rp => cases rp <;> rfl
  case inc r | dec r => cases r <;> rfl
  case ldIndA p | ldAInd p => cases p <;> rfl
  case retCc c => cases c <;> rfl
  case pop q | push q => cases q <;> rfl
  case rst t => rcases isRst_cases h with rfl | rfl | rfl | rfl | rfl | rfl | rfl | rfl <;> rfl
  all_goals rfl

theorem Mn.ofName_name (m : Mn) : Mn.ofName m.name = some m := by cases m <;> decide
theorem R8.ofOpnd_opnd (r : R8) : R8.ofOpnd r.opnd = some r := by cases r <;> decide
theorem R16.ofOpnd_opnd (r : R16) : R16.ofOpnd r.opnd = some r := by cases r <;> decide
theorem R16s.ofOpnd_opnd (r : R16s) : R16s.ofOpnd r.opnd = some r := by cases r <;> decide
theorem IndA.ofOpnd_opnd (r : IndA) : IndA.ofOpnd r.opnd = some r := by cases r <;> decide
theorem Cond.ofOpnd_opnd (r : Cond) : Cond.ofOpnd r.opnd = some r := by cases r <;> decide

theorem read_write_mn (i : Instr) : read (write i).1 (write i).2 = readMn (writeMn i).1 (writeMn i).2 := by
  simp only [Sm83.read, write, Mn.ofName_name, Option.bind_some]

/-- Every instruction is what its canonical spelling reads as. `ld (hl),(hl)` is excluded because it is not
an instruction: its slot `76` is `halt`, and `readLdR` refuses the spelling. -/
theorem read_write (i : Instr) (h : i ≠ .ldRR .hlInd .hlInd) :
    read (write i).1 (write i).2 = some i := by
  rw [read_write_mn]
  cases i
  case ldRR d s =>
    simp only [writeMn, readMn, readLd, R8.ofOpnd_opnd]
    cases d <;> simp [readLdA, readLdR, R8.ofOpnd_opnd]  -- one goal is left, for `d = (hl)`: `¬ s = .hlInd`
    rintro rfl; exact h rfl
  case alu op r => cases op <;> simp [writeMn, readMn, Alu.mn, Alu.hasA, readAluOps, readAlu, R8.ofOpnd_opnd]
  case rot op r => cases op <;> simp [writeMn, readMn, Rot.mn, readR8, R8.ofOpnd_opnd]
  -- the reader looks these operands up in a table
  case jrCc c t | addHl rp | inc r | dec r | retCc c | pop q | push q | jpCc c nn | callCc c nn
     | bit b r | res b r | set b r =>
    simp only [writeMn, readMn, readBit, R8.ofOpnd_opnd, R16.ofOpnd_opnd, R16s.ofOpnd_opnd,
      Cond.ofOpnd_opnd, Option.map_some]
  -- here it branches on the operand: so do we
  case ldRN r n => cases r <;> rfl
  case aluN op n => cases op <;> rfl
  case ldRpNN rp nn | incRp rp | decRp rp => cases rp <;> rfl
  case ldIndA p | ldAInd p => cases p <;> rfl
  all_goals rfl

theorem enc_bytes (pc : Nat) (i : Instr) (h : wf pc i = true) : ∀ b ∈ enc pc i, b < 256 := by
  show Bytes (enc pc i)
  cases i <;>
    simp only [wf, isByte, isWord, isHigh, isBit, isRst, isRel, jrDist, Bool.and_eq_true, Bool.or_eq_true,
      decide_eq_true_eq, enc, byteOf, loOf, hiOf, relOf, bytes_cons, bytes_nil, and_true] at h ⊢
  case jrCc c t | retCc c | jpCc c nn | callCc c nn => have := Cond.idx_lt c; omega
  case ldRpNN rp nn | addHl rp | incRp rp | decRp rp => have := R16.idx_lt rp; omega
  case ldIndA p | ldAInd p => have := IndA.idx_lt p; omega
  case pop q | push q => have := R16s.idx_lt q; omega
  case inc r | dec r | ldRN r n | bit b r | res b r | set b r => have := R8.idx_lt r; omega
  case ldRR d s => have := R8.idx_lt d; have := R8.idx_lt s; omega
  case alu op r => have := Alu.idx_lt op; have := R8.idx_lt r; omega
  case rot op r => have := Rot.idx_lt op; have := R8.idx_lt r; omega
  case aluN op n => have := Alu.idx_lt op; omega
  all_goals omega

theorem norm_norm (i : Instr) : norm (norm i) = norm i := by
  rw [norm.eq_def i]
  split <;> simp only [norm, Int.emod_emod_of_dvd _ (Int.dvd_refl 256)]

theorem norm_wf_enc (pc : Nat) (i : Instr) (h : wf pc i = true) :
    wf pc (norm i) = true ∧ enc pc (norm i) = enc pc i := by
  unfold norm
  split
  case h_3 => exact ⟨h, rfl⟩
  all_goals
    simp only [wf, isHigh, isByte, Bool.and_eq_true, Bool.or_eq_true, decide_eq_true_eq] at h
    simp only [wf, isHigh, isByte, enc, byteOf, Bool.and_eq_true, Bool.or_eq_true,
      decide_eq_true_eq, List.cons.injEq, and_true, true_and]
    omega

/-- What `expected` prescribes is the encoding of the instruction read, which is well-formed; these are
bytes and decode to that instruction up to `norm`. -/
theorem expected_decode (pc : Nat) (m : String) (ops : List Opnd) (bs rest : List Nat)
    (h : expected pc m ops = some bs) :
    ∃ i, read m ops = some i ∧ wf pc i = true ∧ bs = enc pc i ∧
      decode pc (bs ++ rest) = some (norm i, rest) ∧ ∀ b ∈ bs, b < 256 := by
  obtain ⟨i, hr, hw, rfl⟩ := bind_guard_eq_some.1 h
  exact ⟨i, hr, hw, rfl, decode_enc pc i rest hw, enc_bytes pc i hw⟩

/-- `cp r` / `cp (hl)` occupy `B8..BF` of the LR35902 map. lavignes/az65 emits `C8..CF`: the known finding
of C02. -/
theorem cp_is_B8 (pc : Nat) :
    enc pc (.alu .cp .b) = [0xB8] ∧ enc pc (.alu .cp .c) = [0xB9] ∧ enc pc (.alu .cp .d) = [0xBA] ∧
    enc pc (.alu .cp .e) = [0xBB] ∧ enc pc (.alu .cp .h) = [0xBC] ∧ enc pc (.alu .cp .l) = [0xBD] ∧
    enc pc (.alu .cp .hlInd) = [0xBE] ∧ enc pc (.alu .cp .a) = [0xBF] := by
  refine ⟨rfl, rfl, rfl, rfl, rfl, rfl, rfl, rfl⟩

theorem cp_expected (pc : Nat) :
    expected pc "cp" [.reg "b"] = some [0xB8] ∧ expected pc "cp" [.reg "c"] = some [0xB9] ∧
    expected pc "cp" [.reg "d"] = some [0xBA] ∧ expected pc "cp" [.reg "e"] = some [0xBB] ∧
    expected pc "cp" [.reg "h"] = some [0xBC] ∧ expected pc "cp" [.reg "l"] = some [0xBD] ∧
    expected pc "cp" [.ind "hl"] = some [0xBE] ∧ expected pc "cp" [.reg "a"] = some [0xBF] := by
  refine ⟨rfl, rfl, rfl, rfl, rfl, rfl, rfl, rfl⟩

/-! `C8..CF` are other instructions: `ret z`, `ret`, `jp z,nn`, the CB prefix, `call z,nn`, `call nn`,
`adc a,n`, `rst $08`. -/

theorem C8_is_ret_z : decode 0 [0xC8] = some (.retCc .z, []) := by decide
theorem C9_is_ret : decode 0 [0xC9] = some (.ret, []) := by decide
theorem CA_is_jp_z : decode 0 [0xCA, 0x34, 0x12] = some (.jpCc .z 0x1234, []) := by decide
theorem CB_is_prefix : decode 0 [0xCB, 0x37] = some (.rot .swap .a, []) := by decide
theorem CC_is_call_z : decode 0 [0xCC, 0x34, 0x12] = some (.callCc .z 0x1234, []) := by decide
theorem CD_is_call : decode 0 [0xCD, 0x34, 0x12] = some (.call 0x1234, []) := by decide
theorem CE_is_adc_n : decode 0 [0xCE, 0x42] = some (.aluN .adc 0x42, []) := by decide
theorem CF_is_rst_08 : decode 0 [0xCF] = some (.rst 8, []) := by decide

example : expected 0 "ldh" [.reg "a", .mem 0xFF10] = some [0xF0, 0x10] := by decide +kernel
example : expected 0 "ldh" [.reg "a", .mem 0x10] = some [0xF0, 0x10] := by decide +kernel
example : expected 0 "ldh" [.reg "a", .mem 0x100] = none := by decide +kernel
example : expected 0 "ldh" [.reg "a", .mem 0xFEFF] = none := by decide +kernel
example : expected 0 "ldh" [.reg "a", .mem 0x10000] = none := by decide +kernel
example : expected 0 "ldh" [.reg "a", .mem (-1)] = none := by decide +kernel
example : expected 0 "ldh" [.mem 0xFFFF, .reg "a"] = some [0xE0, 0xFF] := by decide +kernel
example : expected 0 "halt" [] = some [0x76, 0x00] := by decide +kernel
example : expected 0 "stop" [] = some [0x10, 0x00] := by decide +kernel
example : expected 0 "ld" [.ind "hl", .ind "hl"] = none := by decide +kernel
example : expected 0 "ld" [.mem 0x1234, .reg "sp"] = some [0x08, 0x34, 0x12] := by decide +kernel
example : expected 0 "ld" [.reg "a", .indInc "hl"] = some [0x2A] := by decide +kernel
example : expected 0 "ld" [.indDec "hl", .reg "a"] = some [0x32] := by decide +kernel
example : expected 0 "ld" [.reg "a", .mem 0x42] = some [0xFA, 0x42, 0x00] := by decide +kernel
example : expected 0 "ld" [.reg "b", .mem 0x42] = some [0x06, 0x42] := by decide +kernel
example : expected 0 "ld" [.reg "b", .imm 256] = none := by decide +kernel
example : expected 0 "ld" [.reg "b", .imm (-1)] = none := by decide +kernel
example : expected 0 "ld" [.reg "bc", .imm 65536] = none := by decide +kernel
example : expected 0 "ld" [.reg "hl", .regPlus "sp" 255] = some [0xF8, 0xFF] := by decide +kernel
example : expected 0 "ld" [.reg "hl", .regPlus "sp" (-1)] = none := by decide +kernel
example : expected 0 "add" [.reg "sp", .imm 256] = none := by decide +kernel
example : expected 0 "sub" [.mem 0x42] = some [0xD6, 0x42] := by decide +kernel
example : expected 0 "sub" [.reg "a", .reg "b"] = none := by decide +kernel
example : expected 0 "add" [.reg "a", .reg "b"] = some [0x80] := by decide +kernel
example : expected 0 "ld" [.ind "c", .reg "a"] = some [0xE2] := by decide +kernel
example : expected 0 "jp" [.reg "c", .imm 0x1234] = some [0xDA, 0x34, 0x12] := by decide +kernel
example : expected 0 "jp" [.reg "hl"] = some [0xE9] := by decide +kernel
example : expected 0 "reti" [] = some [0xD9] := by decide +kernel
example : expected 0 "swap" [.ind "hl"] = some [0xCB, 0x36] := by decide +kernel
example : expected 0 "bit" [.imm 7, .ind "hl"] = some [0xCB, 0x7E] := by decide +kernel
example : expected 0 "bit" [.imm 8, .reg "a"] = none := by decide +kernel
example : expected 0 "rst" [.imm 0x38] = some [0xFF] := by decide +kernel
example : expected 0 "rst" [.imm 7] = none := by decide +kernel
example : expected 0 "rst" [.imm 0x40] = none := by decide +kernel
example : expected 0 "jr" [.imm 0x10] = some [0x18, 0x0E] := by decide +kernel
example : expected 0 "jr" [.imm 0x81] = some [0x18, 0x7F] := by decide +kernel
example : expected 0 "jr" [.imm 0x82] = none := by decide +kernel
example : expected 0 "jr" [.imm (-126)] = some [0x18, 0x80] := by decide +kernel
example : expected 0 "jr" [.imm (-127)] = none := by decide +kernel
example : expected 0x150 "jr" [.flag "nz", .imm 0x150] = some [0x20, 0xFE] := by decide +kernel
example : decode 0x150 [0x20, 0xFE, 0x00] = some (.jrCc .nz 0x150, [0x00]) := by decide +kernel
example : decode 0 [0xD3] = none := by decide +kernel
example : decode 0 [0xFD, 0x21] = none := by decide +kernel
example : decode 0 [0x76, 0x00, 0x3C] = some (.halt, [0x3C]) := by decide +kernel

theorem allOpcodes_nodup : (allOpcodes.map fun i => opKey (enc 0 i)).Nodup :=
  nodup_of_keyMask allOpcodes_keys.1

/-- The opcodes of `allOpcodes` are exactly the defined ones: every unprefixed byte other than
`CB` and the 11 holes, and every CB-prefixed second byte. -/
theorem allOpcodes_cover (k : Nat) :
    (∃ i ∈ allOpcodes, opKey (enc 0 i) = k) ↔ k < 512 ∧ k ≠ 0xCB ∧ k ∉ holes := by
  obtain ⟨h1, h2⟩ := allOpcodes_keys
  obtain ⟨m, hm⟩ := Option.isSome_iff_exists.1 h1
  have : k ∈ allKeys ↔ k ∈ definedKeys :=
    ((keyMask_spec hm).2 k).symm.trans ((keyMask_spec (h2 ▸ hm)).2 k)
  simpa [allKeys, definedKeys] using this

theorem allOpcodes_avoid_holes : ∀ i ∈ allOpcodes, opKey (enc 0 i) ∉ holes := fun i hi =>
  ((allOpcodes_cover _).1 ⟨i, hi, rfl⟩).2.2

/-- The decoder accepts exactly the 244 defined unprefixed first bytes and `CB`: applied to
`op 00 00` it fails precisely on the 11 holes. (`00 00` serves every operand fetch and the pad of
`halt` / `stop`.) -/
theorem decode_defined :
    (List.range 256).filter (fun op => (decode 0 [op, 0, 0]).isNone) = holes := by
  decide +kernel

theorem decodeCB_defined :
    (List.range 256).all (fun op => (decode 0 [0xCB, op]).isSome) = true := by
  decide +kernel

end Az65.Thm.IsaSm83
