import Az65.Lemmas.AbsFrame
/-
C06 — labels / `@here` = origin + bytes emitted; output = the emitted bytes in order.

"At every point of a program the current address equals the last @org value plus the number of
bytes placed since (instructions, @db items including string bytes, @dw words, @ds space, @align
padding, @incbin contents), every label and @here observe exactly that address, and the output
file is exactly the concatenation of the placed bytes in source order.  Statements inside an ADDR
segment advance the address identically but contribute no bytes to the output."

The image is `CoreSt.data` (oldest byte first).  What each effect function appends and how far it
moves the address is `Eff.*_adv` (`Lemmas/AbsFrame.lean`); `*_size` reads that off `Abs.exec`
statement kind by statement kind, `exec_acct` is what all kinds have in common (three clauses of
`AbsFrame.exec_step`), and `run_stretch` carries it along `Abs.run`.  Source order is
`run_append_data`.
-/
namespace Az65.Thm.C06
open Az65 Az65.Abs Az65.Eff Az65.AbsFrame Az65.LinkLemmas

theorem data_addLink (c : CoreSt) (l : Link) : (c.addLink l).data = c.data := rfl

/-- The `padding` of `Eff.align` (`Model/Effects.lean`), which writes the expression out and does not
mention `padTo`; so does `align_size`, which applies `padTo_aligned` to it up to unfolding. -/
def padTo (h a : Nat) : Nat := (a - h % a) % a

theorem padTo_aligned (h a : Nat) (ha : 0 < a) : (h + padTo h a) % a = 0 := by
  unfold padTo
  have hr : h % a < a := Nat.mod_lt _ ha
  by_cases h0 : h % a = 0
  · rw [h0, Nat.sub_zero, Nat.mod_self, Nat.add_zero]; exact h0
  · have h1 : (a - h % a) % a = a - h % a := Nat.mod_eq_of_lt (by omega)
    rw [h1]
    have hd := Nat.div_add_mod h a
    have h2 : h + (a - h % a) = a * (h / a) + a := by omega
    rw [h2, Nat.add_mod_right, Nat.mul_mod_right]

theorem padTo_lt (h a : Nat) (ha : 0 < a) : padTo h a < a := Nat.mod_lt _ ha

theorem two_le_u32 {al : I32} (h : ¬ al.toInt < 2) : 2 ≤ u32 al := by
  unfold u32
  rw [BitVec.toInt_eq_toNat_cond] at h
  have := al.isLt
  split at h <;> omega

theorem dbStr_size {s s' : State} {bytes : List Nat} (hc : s.code = true)
    (h : exec s (.dbStr bytes) = .ok s') :
    s'.core.data = s.core.data ++ bytes ∧ s'.core.here = s.core.here + bytes.length := by
  rcases exec_ok h with ⟨_, c', he, rfl⟩ | ⟨hf, _⟩
  · exact ⟨(dbStr_adv he).data, (dbStr_adv he).here⟩
  · rw [hc] at hf; cases hf

/-- In an ADDR segment `@db` takes no operands and reserves one byte; the statement-level model
writes that as a `dbStr`/`dbVal` statement executed in an ADDR segment, whose operand is ignored. -/
theorem dbStr_addr {s s' : State} {bytes : List Nat} (hc : s.code = false)
    (h : exec s (.dbStr bytes) = .ok s') :
    s'.core.data = s.core.data ∧ s'.core.here = s.core.here + 1 := by
  rcases exec_ok h with ⟨ht, _⟩ | ⟨_, c', he, rfl⟩
  · rw [hc] at ht; cases ht
  · exact ⟨by simpa using (skip_adv he).data, (skip_adv he).here⟩

theorem dbVal_size {s s' : State} {e : List Node} (h : exec s (.dbVal e) = .ok s') :
    s'.core.here = s.core.here + 1 ∧
    (s.code = true → ∃ v, ev (resolve s.core e).1 (resolve s.core e).2 = .ok v ∧
        s'.core.data = s.core.data ++ [byteOf v]) ∧
    (s.code = false → s'.core.data = s.core.data) := by
  rcases exec_ok h with ⟨hc, v, c', hv, he, rfl⟩ | ⟨hc, c', he, rfl⟩
  · have a := (resolve_adv ..).after (dbVal_adv he)
    exact ⟨a.here, fun _ => ⟨v, hv, a.data⟩, by simp [hc]⟩
  · have a := skip_adv he
    exact ⟨a.here, by simp [hc], fun _ => by simpa using a.data⟩

theorem dwVal_size {s s' : State} {e : List Node} (h : exec s (.dwVal e) = .ok s') :
    s'.core.here = s.core.here + 2 ∧
    (s.code = true → ∃ v, ev (resolve s.core e).1 (resolve s.core e).2 = .ok v ∧
        s'.core.data = s.core.data ++ wordOf v) ∧
    (s.code = false → s'.core.data = s.core.data) := by
  rcases exec_ok h with ⟨hc, v, c', hv, he, rfl⟩ | ⟨hc, c', he, rfl⟩
  · have a := (resolve_adv ..).after (dwVal_adv he)
    exact ⟨a.here, fun _ => ⟨v, hv, a.data⟩, by simp [hc]⟩
  · have a := skip_adv he
    exact ⟨a.here, by simp [hc], fun _ => by simpa using a.data⟩

/-- The fill operand is read after the address has moved by the size (`c1`), as in the source: an
`@here` in it is the address after the space.  `b` is 0 both without a fill and with a deferred
one. -/
theorem ds_size {s s' : State} {size : List Node} {fill : Option (List Node)}
    (h : exec s (.ds size fill) = .ok s') :
    ∃ v b, ev (resolve s.core size).1 (resolve s.core size).2 = .ok (some v) ∧ u32 v ≤ 65535 ∧
      s'.core.here = s.core.here + u32 v ∧
      (s.code = true → s'.core.data = s.core.data ++ List.replicate (u32 v) b) ∧
      (s.code = false → s'.core.data = s.core.data) ∧
      (fill = none → b = 0) ∧
      (s.code = true → ∀ fe, fill = some fe → ∃ c1 fv, c1.here = s.core.here + u32 v ∧
          c1.symtab = s.core.symtab ∧ ev (resolve c1 fe).1 (resolve c1 fe).2 = .ok fv ∧
          b = fillByte (some fv)) := by
  obtain ⟨ov, c1, n, hv, hsz, hrest⟩ := exec_ok h
  obtain ⟨v, rfl, rfl, hle, a1⟩ := dsSize_adv hsz
  have a1 := (resolve_adv ..).after a1
  rcases hrest with ⟨hc, rfl⟩ | ⟨hc, rfl, c', he, rfl⟩ | ⟨hc, fe, fv, c', rfl, hfv, he, rfl⟩
  · exact ⟨v, 0, hv, hle, a1.here, by simp [hc], fun _ => by simpa using a1.data, fun _ => rfl,
      by simp [hc]⟩
  · have a := a1.trans (dsFill_adv he)
    exact ⟨v, 0, hv, hle, a.here, fun _ => by simpa [fillByte] using a.data, by simp [hc],
      fun _ => rfl, nofun⟩
  · have a := a1.trans ((resolve_adv ..).after (dsFill_adv he))
    refine ⟨v, fillByte (some fv), hv, hle, a.here, fun _ => by simpa using a.data, by simp [hc],
      nofun, fun _ fe' hfe => ?_⟩
    cases hfe
    exact ⟨c1, fv, a1.here, a1.symtab, hfv, rfl⟩

theorem align_size {s s' : State} {e : List Node} (h : exec s (.align e) = .ok s') :
    ∃ al, ev (resolve s.core e).1 (resolve s.core e).2 = .ok (some al) ∧ 2 ≤ u32 al ∧
      s'.core.here = s.core.here + (u32 al - s.core.here % u32 al) % u32 al ∧
      s'.core.here % u32 al = 0 ∧
      (s.code = true → s'.core.data = s.core.data ++
          List.replicate ((u32 al - s.core.here % u32 al) % u32 al) 0) ∧
      (s.code = false → s'.core.data = s.core.data) := by
  obtain ⟨ov, c', hv, he, rfl⟩ := exec_ok h
  obtain ⟨al, rfl, hal, a⟩ := align_adv he
  have a := (resolve_adv ..).after a
  have h2 := two_le_u32 hal
  rw [resolve_here] at a
  refine ⟨al, hv, h2, a.here, ?_, fun ht => by simpa [ht] using a.data,
    fun hf => by simpa [hf] using a.data⟩
  rw [a.here]; exact padTo_aligned _ _ (by omega)

theorem incbin_size {s s' : State} {bytes : List Nat} (h : exec s (.incbin bytes) = .ok s') :
    s.code = true ∧ s'.core.data = s.core.data ++ bytes ∧
      s'.core.here = s.core.here + bytes.length := by
  obtain ⟨hc, c', he, rfl⟩ := exec_ok h
  exact ⟨hc, (incbin_adv he).data, (incbin_adv he).here⟩

theorem instr_size {s s' : State} {ps : List Piece} (h : exec s (.instr ps) = .ok s') :
    s.code = true ∧
    ∃ bs, bs.length = (ps.map pieceSize).sum ∧ s'.core.data = s.core.data ++ bs ∧
      s'.core.here = s.core.here + bs.length ∧
      s'.core.here = s.core.here + (s'.core.dataLen - s.core.dataLen) := by
  obtain ⟨hc, c1, c', hp, he, rfl⟩ := exec_ok h
  obtain ⟨bs, hl, a⟩ := instr_adv hp he
  refine ⟨hc, bs, hl, a.data, a.here, ?_⟩
  show c'.here = s.core.here + (c'.dataLen - s.core.dataLen)
  rw [a.here, dataLen_sub a.data]

theorem org_sets_here {s s' : State} {e : List Node} (h : exec s (.org e) = .ok s') :
    ∃ v, ev (resolve s.core e).1 (resolve s.core e).2 = .ok (some v) ∧ u32 v ≤ 65535 ∧
      s'.core.here = u32 v ∧ s'.core.data = s.core.data ∧ s'.code = s.code := by
  obtain ⟨ov, c', hv, he, rfl⟩ := exec_ok h
  obtain ⟨v, rfl, hle, rfl⟩ := org_ok he
  exact ⟨v, hv, hle, rfl, resolve_data .., rfl⟩

theorem label_sees_here {s s' : State} {d : String} (h : exec s (.label d) = .ok s') :
    s'.core.symtab.get d = some ⟨.val (i32OfNat s.core.here), s.core.curMeta⟩ ∧
      s'.core.here = s.core.here ∧ s'.core.data = s.core.data := by
  obtain ⟨c', he, rfl⟩ := exec_ok h
  obtain ⟨_, rfl⟩ := label_eq_ok.1 he
  exact ⟨CoreSt.insertWithMeta_get_self .., rfl, rfl⟩

/-- `@here` in an expression is replaced, while the expression is read, by the current address
— at every position of the expression. -/
theorem here_directive (c : CoreSt) (e : List Node) (i : Nat)
    (h : e[i]? = some (.label "@here")) : (resolve c e).2[i]? = some (.val (i32OfNat c.here)) := by
  rw [resolve_snd, List.getElem?_map, h, Option.map_some, c.inline_here]

theorem here_directive_head (c : CoreSt) (r : List Node) :
    (resolve c (.label "@here" :: r)).2 = .val (i32OfNat c.here) :: (resolve c r).2 := by
  rw [resolve_snd, resolve_snd, List.map_cons, c.inline_here]

theorem here_directive_gone (c : CoreSt) (e : List Node) :
    Node.label "@here" ∉ (resolve c e).2 := by
  rw [resolve_snd]
  intro h
  obtain ⟨x, _, hx⟩ := List.mem_map.1 h
  cases x with
  | label n =>
    by_cases hn : n = "@here"
    · rw [hn, c.inline_here] at hx; cases hx
    · rw [c.inline_label hn] at hx
      rcases labelNode_cases c n with ⟨v, hv⟩ | hl
      · rw [hv] at hx; cases hx
      · rw [hl] at hx; cases hx; exact hn rfl
  | _ => cases hx

/-- **C06 (one statement, summary).** Every accepted statement only appends to the image — some
byte list `bs`, nothing already placed changes —, appends nothing in an ADDR segment, and, unless
it is an `@org`, in a CODE segment moves the address by exactly `bs.length`. -/
theorem exec_acct {s s' : State} {st : Stmt} (h : exec s st = .ok s') :
    ∃ bs, s'.core.data = s.core.data ++ bs ∧ (s.code = false → bs = []) ∧
      ((∀ e, st ≠ .org e) → s.code = true → s'.core.here = s.core.here + bs.length) :=
  let ⟨bs, hs⟩ := exec_step h
  ⟨bs, hs.data, hs.addr, hs.here⟩

/-- **C06 (the image only grows at its end).** A statement never changes a byte that is already
placed: the image afterwards is the image before followed by the statement's bytes. -/
theorem exec_data_append {s s' : State} {st : Stmt} (h : exec s st = .ok s') :
    ∃ bs, s'.core.data = s.core.data ++ bs := by
  obtain ⟨bs, hd, _⟩ := exec_acct h
  exact ⟨bs, hd⟩

/-- **C06 (address = bytes placed).** In a CODE segment every statement other than `@org` moves the
address by exactly the number of bytes by which the image grew. -/
theorem exec_here_data {s s' : State} {st : Stmt} (hc : s.code = true) (hno : ∀ e, st ≠ .org e)
    (h : exec s st = .ok s') :
    s'.core.here = s.core.here + (s'.core.dataLen - s.core.dataLen) := by
  obtain ⟨bs, hd, _, hh⟩ := exec_acct h
  rw [hh hno hc, dataLen_sub hd]

/-! **C06 (ADDR segments).** In an ADDR segment no accepted statement places a byte (`exec_acct`);
`@incbin` and instructions are not accepted there at all (`addr_segment_rejects_incbin`,
`addr_segment_rejects_instr`), and `@db`, `@dw`, `@ds`, `@align` move the address as they do in a CODE
segment: by 1, 2, the size, the padding (`addr_segment_same_advance`). -/

theorem addr_segment_rejects_incbin {s : State} {bytes : List Nat} (hc : s.code = false) :
    exec s (.incbin bytes) = .error ⟨.unexpected, {}⟩ := by
  simp [exec, hc]

theorem addr_segment_rejects_instr {s : State} {ps : List Piece} (hc : s.code = false) :
    exec s (.instr ps) = .error ⟨.unexpected, {}⟩ := by
  simp [exec, hc]

theorem addr_segment_same_advance {s s' : State} :
    (∀ e, exec s (.dbVal e) = .ok s' → s'.core.here = s.core.here + 1) ∧
    (∀ e, exec s (.dwVal e) = .ok s' → s'.core.here = s.core.here + 2) ∧
    (∀ size fill, exec s (.ds size fill) = .ok s' →
        ∃ v, ev (resolve s.core size).1 (resolve s.core size).2 = .ok (some v) ∧
          s'.core.here = s.core.here + u32 v) ∧
    (∀ e, exec s (.align e) = .ok s' →
        ∃ al, ev (resolve s.core e).1 (resolve s.core e).2 = .ok (some al) ∧
          s'.core.here = s.core.here + (u32 al - s.core.here % u32 al) % u32 al) := by
  refine ⟨fun e h => (dbVal_size h).1, fun e h => (dwVal_size h).1, fun size fill h => ?_,
    fun e h => ?_⟩
  · obtain ⟨v, _, hv, _, hh, _⟩ := ds_size h
    exact ⟨v, hv, hh⟩
  · obtain ⟨al, hv, _, hh, _⟩ := align_size h
    exact ⟨al, hv, hh⟩

/-- **C06 (a program only appends to the image).** After any accepted statement list the image is
the image before followed by some bytes.  Which bytes is said statement by statement (`exec_acct`),
in what order by `run_append_data`; neither is part of this statement. -/
theorem run_data_prefix {s s' : State} {prog : List Stmt} (h : run s prog = .ok s') :
    ∃ bs, s'.core.data = s.core.data ++ bs := (run_grow h).imp fun _ g => g.data

/-- **C06 (source order).** The image of a two-part program is the image of the first part followed
by what the second part places. -/
theorem run_append_data {s s'' : State} {p q : List Stmt} (h : run s (p ++ q) = .ok s'') :
    ∃ s' bp bq, run s p = .ok s' ∧ run s' q = .ok s'' ∧ s'.core.data = s.core.data ++ bp ∧
      s''.core.data = s.core.data ++ bp ++ bq := by
  obtain ⟨s', hp, hq⟩ := run_append h
  obtain ⟨bp, h1⟩ := run_data_prefix hp
  obtain ⟨bq, h2⟩ := run_data_prefix hq
  exact ⟨s', bp, bq, hp, hq, h1, by rw [h2, h1]⟩

/-- statements that neither reset the address nor switch the segment kind -/
def plain : Stmt → Bool
  | .org _ => false
  | .segment _ => false
  | _ => true

theorem plain_not_org {st : Stmt} (h : plain st = true) : ∀ e, st ≠ .org e := by
  intro e he; subst he; cases h

theorem plain_not_segment {st : Stmt} (h : plain st = true) : ∀ b, st ≠ .segment b := by
  intro e he; subst he; cases h

theorem run_stretch {s s' : State} {prog : List Stmt} (hp : ∀ st ∈ prog, ∀ b, st ≠ .segment b)
    (h : run s prog = .ok s') :
    s'.code = s.code ∧ ∃ bs, s'.core.data = s.core.data ++ bs ∧ (s.code = false → bs = []) ∧
      ((∀ st ∈ prog, ∀ e, st ≠ .org e) → s.code = true →
        s'.core.here = s.core.here + bs.length) := by
  refine run_inv (P := fun s1 => s1.code = s.code ∧ ∃ bs, s1.core.data = s.core.data ++ bs ∧
    (s.code = false → bs = []) ∧ ((∀ st ∈ prog, ∀ e, st ≠ .org e) → s.code = true →
      s1.core.here = s.core.here + bs.length)) ?_ ⟨rfl, [], by simp, fun _ => rfl, fun _ _ => rfl⟩ h
  intro st hm s1 s2 ⟨hc, bs, hd, ha, hh⟩ he
  obtain ⟨b2, hs⟩ := exec_step he
  refine ⟨(hs.code (hp st hm)).trans hc, bs ++ b2, by rw [hs.data, hd, List.append_assoc],
    fun hf => by rw [ha hf, hs.addr (hc.trans hf)]; rfl, fun ho ht => ?_⟩
  rw [hs.here (ho st hm) (hc.trans ht), hh ho ht, List.length_append, Nat.add_assoc]

/-- **C06 (address accounting).** In a CODE segment, over a stretch of statements without
`@org`/`@segment`, the address moves by exactly the number of bytes the image grew by. -/
theorem run_here_accounting {s s' : State} {prog : List Stmt} (hc : s.code = true)
    (hp : ∀ st ∈ prog, plain st = true) (h : run s prog = .ok s') :
    s'.core.here = s.core.here + (s'.core.dataLen - s.core.dataLen) := by
  obtain ⟨_, bs, hd, _, hh⟩ := run_stretch (fun st hm => plain_not_segment (hp st hm)) h
  rw [hh (fun st hm => plain_not_org (hp st hm)) hc, dataLen_sub hd]

/-- **C06 (address = last `@org` + bytes placed since).** After `@org e` followed by a stretch of
statements without `@org`/`@segment` in a CODE segment, the address is the `@org` value plus the
number of bytes placed since the `@org`. -/
theorem run_here_since_org {s s' : State} {e : List Node} {prog : List Stmt} (hc : s.code = true)
    (hp : ∀ st ∈ prog, plain st = true) (h : run s (.org e :: prog) = .ok s') :
    ∃ v bs, ev (resolve s.core e).1 (resolve s.core e).2 = .ok (some v) ∧ u32 v ≤ 65535 ∧
      s'.core.data = s.core.data ++ bs ∧ s'.core.here = u32 v + bs.length := by
  obtain ⟨s1, hs, hr⟩ := run_cons h
  obtain ⟨v, hv, hle, hh, hd, hcode⟩ := org_sets_here hs
  obtain ⟨_, bs, hd2, _, hh2⟩ := run_stretch (fun st hm => plain_not_segment (hp st hm)) hr
  exact ⟨v, bs, hv, hle, by rw [hd2, hd],
    by rw [hh2 (fun st hm => plain_not_org (hp st hm)) (hcode.trans hc), hh]⟩

/-- **C06 (labels).** A label that follows `@org e` and a stretch of statements without
`@org`/`@segment` in a CODE segment holds the `@org` value plus the number of bytes placed in
between. -/
theorem label_after_org {s s' : State} {e : List Node} {pre : List Stmt} {d : String}
    (hc : s.code = true) (hp : ∀ st ∈ pre, plain st = true)
    (h : run s (.org e :: pre ++ [.label d]) = .ok s') :
    ∃ v bs, ev (resolve s.core e).1 (resolve s.core e).2 = .ok (some v) ∧
      s'.core.data = s.core.data ++ bs ∧
      ∃ m, s'.core.symtab.get d = some ⟨.val (i32OfNat (u32 v + bs.length)), m⟩ := by
  obtain ⟨s1, h1, h2⟩ := run_append (p := .org e :: pre) (q := [.label d]) (by simpa using h)
  obtain ⟨v, bs, hv, _, hd, hh⟩ := run_here_since_org hc hp h1
  obtain ⟨s2, hl, hn⟩ := run_cons h2
  rw [run_nil hn]
  obtain ⟨hg, _, hd2⟩ := label_sees_here hl
  exact ⟨v, bs, hv, by rw [hd2, hd], _, by rw [hg, hh]⟩

theorem run_addr_no_bytes {s s' : State} {prog : List Stmt} (hc : s.code = false)
    (hp : ∀ st ∈ prog, ∀ b, st ≠ .segment b) (h : run s prog = .ok s') :
    s'.core.data = s.core.data := by
  obtain ⟨_, bs, hd, hnil, _⟩ := run_stretch hp h
  rw [hd, hnil hc, List.append_nil]

def view (r : Except Err State) : Option (List Nat × Nat × Bool) :=
  match r with
  | .ok s => some (s.core.data, s.core.here, s.code)
  | .error _ => none

example : view (run {} [.dbVal [.val 5], .label "x"]) = some ([5], 1, true) := by decide
example : view (run {} [.org [.val 0x8000], .dbStr [72, 105], .dwVal [.val 0x1234], .label "x"]) =
    some ([72, 105, 0x34, 0x12], 0x8006 - 2, true) := by decide
example : (match run {} [.org [.val 0x8000], .dbStr [72, 105], .label "x"] with
    | .ok s => (s.core.symtab.get "x").map (fun e => match e.sym with | .val v => v.toNat | _ => 0)
    | .error _ => none) = some 0x8002 := by decide
example : view (run {} [.org [.val 0x100], .dbVal [.val 1], .dwVal [.label "@here"],
    .dwVal [.label "later"]]) = some ([1, 0x01, 0x01, 0, 0], 0x105, true) := by decide
example : view (run {} [.dbVal [.val 9], .ds [.val 3] (some [.val 0xAA]), .ds [.val 2] none,
    .align [.val 4], .incbin [1, 2, 3], .instr [.lit 0xC3, .word [.label "f"]]]) =
    some ([9, 0xAA, 0xAA, 0xAA, 0, 0, 0, 0, 1, 2, 3, 0xC3, 0, 0], 14, true) := by decide
example : view (run {} [.segment false, .org [.val 0xC000], .dbVal [.val 1], .dwVal [.val 2],
    .ds [.val 5] none, .align [.val 16], .label "v"]) = some ([], 0xC010, false) := by decide
example : exec { code := false } (.incbin [1]) = .error ⟨.unexpected, {}⟩ :=
  addr_segment_rejects_incbin rfl
example : ∃ s', run {} (.org [.val 0x8000] :: [.dbStr [1, 2, 3]] ++ [.label "x"]) = .ok s' := by
  exact ⟨_, rfl⟩

end Az65.Thm.C06
