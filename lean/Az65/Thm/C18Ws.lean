import Az65.Model.Tables
import Az65.Lemmas.WsLemmas
import Az65.Thm.C13
import Az65.Thm.C14
/-
C18 (white-space part) — "the output is unchanged by … extra spaces or tabs between tokens".

* `lexAll_step`, `lexAll_ind`, `lexAll_rel` — a run of `lexAll` followed one `lexStep` at a time, and
  two such runs in lock step: the one induction behind `loc_irrelevant`, `ws_insensitive` and
  `lexAll_fuel_stable`.
* `loc_irrelevant*` — locations never steer the lexer: `lexChar`, `lexStep`, `lexAll` map states
  that are equal except for `loc` / `tokLoc` to results that are equal except for locations (same
  `Tok`s, same error kind).
* `blank_initial` — in state `initial` with nothing stashed, a blank is consumed as a no-op.
* `ws_insensitive` / `ws_run` — inserting blanks at a point where the machine is in state
  `initial` with nothing stashed does not change the `Tok` list nor the error kind of `lexAll`,
  for EVERY fuel (same fuel on both sides);
* `ws_insensitive_fuel` / `ws_run_fuel` — each side with its own fuel ≥ length + 2
  (`lexAll_fuel_stable`: such fuel never cuts a run short).

Scope of `ws_insensitive`: the insertion point must be a point where the machine is in `initial`
with nothing stashed (`CleanAfter`) — the start of the text, after a line feed, next to an existing
blank, after the closing quote of a string / character literal, after a two- or three-character
symbol.  A blank typed directly after an identifier, a number, a directive or a one-character
symbol is NOT covered (there the blank is what terminates the token: the state is not `initial`).
-/
namespace Az65.Thm.C18Ws
open Az65

def eraseLoc (r : List LTok × Option LexErr) : List Tok × Option LexErrKind :=
  (r.1.map (·.tok), r.2.map (·.kind))

/-! ### `lexAll` as the iteration of `lexStep`

One `Lexer::next` always runs to its end within the fuel `lexAll` gives it (C13, `lexer_progress`), so
a run of `lexAll` can be followed one `lexStep` at a time: after `lexAll_step`, `Lexer.next` does not
appear again. -/

theorem lexAll_zero (T : LexTables) (lx : Lexer) : lexAll T 0 lx = ([], none) := rfl

open C13 in
theorem lexAll_step (T : LexTables) (f : Nat) (lx : Lexer) :
    lexAll T (f + 1) lx = match lexStep T lx with
      | .more lx' => lexAll T (f + 1) lx'
      | .tok t lx' => (t :: (lexAll T f lx').1, (lexAll T f lx').2)
      | .err e _ => ([], some e)
      | .done _ => ([], none) := by
  have next_eq {lx o} (h : Loop T lx o) : Lexer.next T lx.fuel lx = o :=
    Loop_deterministic (lexer_progress T lx).1 h
  cases h : lexStep T lx with
  | more lx' => simp only [lexAll, next_eq (.more h (lexer_progress T lx').1)]
  | tok | err | done => simp only [lexAll, next_eq (.stop h fun _ h => nomatch h)]

theorem lexAll_more {T : LexTables} {lx lx' : Lexer} (h : lexStep T lx = .more lx') :
    ∀ f, lexAll T f lx = lexAll T f lx'
  | 0 => rfl
  | f + 1 => by rw [lexAll_step, h]

open C13 in
/-- Induction along a run of `lexAll`: a `continue` step keeps the fuel (there are finitely many in
a row, `lexStep_more_decreases`), a token spends one unit. -/
theorem lexAll_ind (T : LexTables) {P : Nat → Lexer → Prop} (zero : ∀ lx, P 0 lx)
    (step : ∀ f lx, (∀ lx', lexStep T lx = .more lx' → P (f + 1) lx') →
      (∀ t lx', lexStep T lx = .tok t lx' → P f lx') → P (f + 1) lx) : ∀ f lx, P f lx := by
  intro f
  induction f with
  | zero => exact zero
  | succ f ih =>
    intro lx
    induction hm : mu lx using Nat.strongRecOn generalizing lx with
    | _ m ihm =>
      exact step f lx (fun lx' e => ihm _ (hm ▸ lexStep_more_decreases e) lx' rfl) fun _ lx' _ => ih lx'

theorem eraseLoc_cons (t : LTok) (r : List LTok × Option LexErr) :
    eraseLoc (t :: r.1, r.2) = (t.tok :: (eraseLoc r).1, (eraseLoc r).2) := rfl

/-- **Two runs in lock step.**  The second alternative of `hR` is the way out of lock step:
`Sched.step` takes it at the inserted blank, where one run makes a step the other does not. -/
theorem lexAll_rel {T : LexTables} {R : Lexer → Lexer → Prop}
    (hR : ∀ a b, R a b → OutRel R (lexStep T a) (lexStep T b) ∨
      ∀ f, eraseLoc (lexAll T f a) = eraseLoc (lexAll T f b)) :
    ∀ f a b, R a b → eraseLoc (lexAll T f a) = eraseLoc (lexAll T f b) := by
  refine lexAll_ind T (fun _ _ _ => rfl) fun f a ihm iht b h => ?_
  rcases hR a b h with hs | he
  · rw [lexAll_step, lexAll_step]
    cases ea : lexStep T a with
    | more a' =>
      obtain ⟨b', eb, hr⟩ := (ea ▸ hs).more_inv
      rw [eb]; exact ihm a' ea b' hr
    | tok t a' =>
      obtain ⟨t', b', eb, ht, hr⟩ := (ea ▸ hs).tok_inv
      rw [eb]; dsimp only
      rw [eraseLoc_cons, eraseLoc_cons, iht t a' ea b' hr, ht]
    | err e a' =>
      obtain ⟨e', b', eb, he, _⟩ := (ea ▸ hs).err_inv
      rw [eb]; exact congrArg (fun k => ([], some k)) he
    | done a' =>
      obtain ⟨b', eb, _⟩ := (ea ▸ hs).done_inv
      rw [eb]
  · exact he _

def LocEq (a b : Lexer) : Prop := Sim a b ∧ a.input = b.input

theorem LocEq.refl (a : Lexer) : LocEq a a := ⟨Sim.refl a, rfl⟩

theorem LocEq.symm {a b : Lexer} (h : LocEq a b) : LocEq b a := ⟨h.1.symm, h.2.symm⟩

theorem LocEq.trans {a b c : Lexer} (h : LocEq a b) (h' : LocEq b c) : LocEq a c :=
  ⟨h.1.trans h'.1, h.2.trans h'.2⟩

theorem LocEq_iff (a b : Lexer) :
    LocEq a b ↔ b = { a with loc := b.loc, tokLoc := b.tokLoc } := by
  constructor
  · rintro ⟨⟨h1, h2, h3, h4, h5⟩, h6⟩
    obtain ⟨i1, en1, l1, tl1, st1, s1, bf1, eo1⟩ := a
    obtain ⟨i2, en2, l2, tl2, st2, s2, bf2, eo2⟩ := b
    dsimp only at h1 h2 h3 h4 h5 h6
    subst h1 h2 h3 h4 h5 h6
    rfl
  · intro h
    rw [h]
    exact ⟨⟨rfl, rfl, rfl, rfl, rfl⟩, rfl⟩

theorem LocEq.toExt {a b : Lexer} (h : LocEq a b) : Ext [] a b :=
  ⟨h.1, by rw [List.append_nil]; exact h.2.symm⟩

theorem LocEq.ofExt {a b : Lexer} (h : Ext [] a b) : LocEq a b :=
  ⟨h.1, by have := h.2; rw [List.append_nil] at this; exact this.symm⟩

theorem loc_irrelevant_lexChar (T : LexTables) {a b : Lexer} (c : Char) (h : LocEq a b) :
    OutRel LocEq (lexChar T a c) (lexChar T b c) :=
  (lexChar_ext T c h.toExt).mono LocEq.ofExt

theorem loc_irrelevant_lexStep (T : LexTables) {a b : Lexer} (h : LocEq a b) :
    OutRel LocEq (lexStep T a) (lexStep T b) :=
  (lexStep_ext T h.toExt (.inl rfl)).mono LocEq.ofExt

/-- **`loc_irrelevant` (C18).**  Locations never steer the lexer: from two states that are equal
except for `loc` and `tokLoc`, a whole run returns the same `Tok`s and the same error kind (or
both no error), for every table and every fuel. -/
theorem loc_irrelevant (T : LexTables) (f : Nat) :
    ∀ a b, LocEq a b → eraseLoc (lexAll T f a) = eraseLoc (lexAll T f b) :=
  lexAll_rel (fun _ _ h => .inl (loc_irrelevant_lexStep T h)) f

/-- Instance: neither the file number nor the starting line / column matter. -/
theorem loc_irrelevant_new (T : LexTables) (f : Nat) (file file' : Nat) (cs : List Char)
    (ending : StreamEnd) (l tl : Loc) :
    eraseLoc (lexAll T f (Lexer.new file cs ending)) =
      eraseLoc (lexAll T f { Lexer.new file' cs ending with loc := l, tokLoc := tl }) :=
  loc_irrelevant T f _ _ ⟨⟨rfl, rfl, rfl, rfl, rfl⟩, rfl⟩

/-- The characters the Model skips in state `initial`: every Unicode white-space character (Rust
`char::is_whitespace`) except the line feed — in particular the space and the tab, but also `\r`,
vertical tab, form feed, NBSP, … -/
def isBlank (c : Char) : Bool := isWs c && c != '\n'

theorem isBlank_space : isBlank ' ' = true := by decide
theorem isBlank_tab : isBlank '\t' = true := by decide
theorem isBlank_newline : isBlank '\n' = false := by decide
theorem isBlank_letter : isBlank 'a' = false := by decide

theorem isBlank_iff (c : Char) : isBlank c = true ↔ isWs c = true ∧ c ≠ '\n' := by
  simp [isBlank]

/-- **`blank_initial` (one iteration).**  In state `initial` a blank gives `continue` and leaves
the whole state — `buf` included, whatever it holds — unchanged.  (`CharStep.go` leaves the new
buffer open, hence the walk through `lexChar` itself.) -/
theorem blank_initial_lexChar (T : LexTables) (lx : Lexer) (c : Char)
    (hst : lx.state = .initial) (hb : isBlank c = true) : lexChar T lx c = .more lx := by
  obtain ⟨hw, hn⟩ := (isBlank_iff c).mp hb
  obtain ⟨input, ending, loc, tokLoc, stash, state, buf, eof⟩ := lx
  dsimp only at hst; subst hst
  have h1 : ¬ (c == '\n') = true := by simpa using hn
  unfold lexChar; dsimp only
  rw [if_neg h1, if_pos hw]

/-- **`blank_initial` (C18).**  In state `initial` with nothing stashed, fetching a blank `c` from
the input returns `continue` (no token, no error) and changes nothing but the consumed input and
`loc` (one column further): `state`, `stash`, `buf`, `tokLoc`, `eof`, `ending` are as before.
(The Model does not guarantee an empty `buf` in `initial` — a two-character symbol leaves its
spelling there — but `initial` never reads it and the blank leaves it alone.) -/
theorem blank_initial (T : LexTables) (lx : Lexer) (c : Char) (rest : List Char)
    (hst : lx.state = .initial) (hs : lx.stash = none) (hi : lx.input = c :: rest)
    (hb : isBlank c = true) :
    lexStep T lx = .more { lx with input := rest, loc := { lx.loc with col := lx.loc.col + 1 } } := by
  have hn : (c == '\n') = false := by
    have := ((isBlank_iff c).mp hb).2; simpa using this
  rw [(Fetch.input hs hi).lexStep,
    blank_initial_lexChar T { lx with input := rest, loc := stepLoc lx.loc c } c hst hb]
  simp only [stepLoc, hn]
  rfl

/-- `n` fetch-and-iterate steps, none of which ends the run (`none` on an error or on the end of
the stream); tokens produced on the way are dropped — only the state reached matters here. -/
def stepsN (T : LexTables) : Nat → Lexer → Option Lexer
  | 0, lx => some lx
  | n + 1, lx =>
    match lexStep T lx with
    | .more lx' => stepsN T n lx'
    | .tok _ lx' => stepsN T n lx'
    | _ => none

theorem stepsN_succ {T : LexTables} {n : Nat} {lx lx' : Lexer} (h : stepsN T (n + 1) lx = some lx') :
    stepsN T n (lexStep T lx).lx = some lx' ∧ ∀ e l, lexStep T lx ≠ .err e l := by
  cases e : lexStep T lx with
  | more l | tok _ l => rw [stepsN, e] at h; exact ⟨h, fun _ _ h => nomatch h⟩
  | err | done => rw [stepsN, e] at h; cases h

theorem stepsN_inv {T : LexTables} {J : Lexer → Prop} (hJ : ∀ lx, J lx → J (lexStep T lx).lx) :
    ∀ n a lx, stepsN T n a = some lx → J a → J lx
  | 0, _, _, h, ha => Option.some.inj h ▸ ha
  | n + 1, a, lx, h, ha => stepsN_inv hJ n _ lx (stepsN_succ h).1 (hJ a ha)

/-- Steps that lead to a state from before the end-of-input flush all had a character to fetch. -/
theorem stepsN_fetch {T : LexTables} {n : Nat} {p p' : Lexer} (h : stepsN T (n + 1) p = some p')
    (he : p'.eof = false) : ¬(p.stash = none ∧ p.input = []) := by
  rintro ⟨hs, hi⟩
  obtain ⟨hn, herr⟩ := stepsN_succ h
  rcases lexStep_at_end T hs hi with ⟨e, l, hx⟩ | hx
  · exact herr e l hx
  · have := stepsN_inv (J := (·.eof = true)) (fun _ => lexStep_eof_mono T) n _ p' hn hx
    rw [he] at this; cases this

/-- **The hypothesis of `ws_insensitive`.**  Running the lexer from `Lexer.new file pre ending`,
after some number of steps the machine has consumed exactly `pre` (nothing unread, the
end-of-input flush not performed) without an error, and is in state `initial` with nothing stashed:
the point between `pre` and what follows is a point *between tokens*. -/
def CleanAfter (T : LexTables) (file : Nat) (ending : StreamEnd) (pre : List Char) : Prop :=
  ∃ n lx, stepsN T n (Lexer.new file pre ending) = some lx ∧
    lx.input = [] ∧ lx.eof = false ∧ lx.stash = none ∧ lx.state = .initial

theorem CleanAfter_reach {T : LexTables} {file : Nat} {ending : StreamEnd} {pre : List Char}
    (h : CleanAfter T file ending pre) :
    ∃ lx, C14.Reach T (Lexer.new file pre ending) lx ∧
      lx.input = [] ∧ lx.eof = false ∧ lx.stash = none ∧ lx.state = .initial := by
  obtain ⟨n, lx, hn, h'⟩ := h
  exact ⟨lx, stepsN_inv (fun _ => C14.Reach.step) n _ lx hn C14.Reach.refl, h'⟩

/-- Executable form of `CleanAfter` with the number of steps given. -/
def cleanAt (T : LexTables) (n : Nat) (lx0 : Lexer) : Bool :=
  match stepsN T n lx0 with
  | some lx => lx.input.isEmpty && !lx.eof && lx.stash.isNone && lx.state == .initial
  | none => false

theorem CleanAfter_of_cleanAt {T : LexTables} {file : Nat} {ending : StreamEnd} {pre : List Char}
    (n : Nat) (h : cleanAt T n (Lexer.new file pre ending) = true) : CleanAfter T file ending pre := by
  unfold cleanAt at h
  split at h
  · rename_i lx hlx
    simp only [Bool.and_eq_true, List.isEmpty_iff, Bool.not_eq_true', Option.isNone_iff_eq_none,
      beq_iff_eq] at h
    exact ⟨n, lx, hlx, h.1.1.1, h.1.1.2, h.1.2, h.2⟩
  · cases h

/-- The relation of the white-space simulation: `a` (on the text with the blank `c`) and `b` (on
the text without it) both run in lock step with a lexer `p` on the prefix alone, which is `n` steps
away from the point between tokens. -/
def Sched (T : LexTables) (c : Char) (post : List Char) (a b : Lexer) : Prop :=
  ∃ n p p', stepsN T n p = some p' ∧
    (p'.input = [] ∧ p'.eof = false ∧ p'.stash = none ∧ p'.state = .initial) ∧
    Ext (c :: post) p a ∧ Ext post p b

/-- Before that point the three lexers step alike (`lexStep_ext`); at it, `a` skips the blank
(`blank_initial`) and is then `b` but for the locations. -/
theorem Sched.step {T : LexTables} {c : Char} (hc : isBlank c = true) {post : List Char}
    {a b : Lexer} (h : Sched T c post a b) :
    OutRel (Sched T c post) (lexStep T a) (lexStep T b) ∨
      ∀ f, eraseLoc (lexAll T f a) = eraseLoc (lexAll T f b) := by
  obtain ⟨n, p, p', hn, hclean, ha, hb⟩ := h
  cases n with
  | zero =>
    cases hn
    obtain ⟨hi, _, hs, hst⟩ := hclean
    have hstep := blank_initial T a c post (ha.1.state ▸ hst) (ha.1.stash ▸ hs)
      (by rw [ha.2, hi]; rfl) hc
    refine .inr fun f => ?_
    rw [lexAll_more hstep]
    have hab : Sim a b := ha.1.symm.trans hb.1
    exact loc_irrelevant T f _ b
      ⟨⟨hab.ending, hab.stash, hab.state, hab.buf, hab.eof⟩, by rw [hb.2, hi]; rfl⟩
  | succ n =>
    have hne := stepsN_fetch hn hclean.2.1
    exact .inl <| ((lexStep_ext T ha (.inr hne)).comp (lexStep_ext T hb (.inr hne))).mono
      fun ⟨ra, rb⟩ => ⟨n, _, p', (stepsN_succ hn).1, hclean, ra, rb⟩

/-- **`ws_insensitive` (C18: extra spaces or tabs between tokens).**  For every name table, file
number, stream end, text `pre ++ post` and blank character `b` (space, tab, any white space but
the line feed): if the point after `pre` is a point between tokens (`CleanAfter`: having consumed
exactly `pre`, the machine is in state `initial` with nothing stashed), then the runs on
`pre ++ b :: post` and on `pre ++ post` return the same `Tok`s and the same error kind (or both no
error).  No fuel hypothesis is needed: the blank costs no `next` call, so the two runs agree for
EVERY value of the fuel (the number of `next` calls allowed), sufficient or not. -/
theorem ws_insensitive (T : LexTables) (file : Nat) (ending : StreamEnd) (pre post : List Char)
    (b : Char) (hb : isBlank b = true) (h : CleanAfter T file ending pre) (fuel : Nat) :
    eraseLoc (lexAll T fuel (Lexer.new file (pre ++ b :: post) ending)) =
      eraseLoc (lexAll T fuel (Lexer.new file (pre ++ post) ending)) := by
  obtain ⟨n, lx, hn, hclean⟩ := h
  exact lexAll_rel (fun _ _ => Sched.step hb) fuel _ _
    ⟨n, _, lx, hn, hclean, ⟨⟨rfl, rfl, rfl, rfl, rfl⟩, rfl⟩, ⟨⟨rfl, rfl, rfl, rfl, rfl⟩, rfl⟩⟩

/-- **`ws_run`.**  The same for inserting any run of blanks. -/
theorem ws_run (T : LexTables) (file : Nat) (ending : StreamEnd) (pre post : List Char)
    (bs : List Char) (hbs : ∀ b ∈ bs, isBlank b = true) (h : CleanAfter T file ending pre)
    (fuel : Nat) :
    eraseLoc (lexAll T fuel (Lexer.new file (pre ++ bs ++ post) ending)) =
      eraseLoc (lexAll T fuel (Lexer.new file (pre ++ post) ending)) := by
  induction bs with
  | nil => rw [List.append_nil]
  | cons b bs ih =>
    have h1 := ws_insensitive T file ending pre (bs ++ post) b (hbs b List.mem_cons_self) h fuel
    have h2 := ih (fun x hx => hbs x (List.mem_cons_of_mem _ hx))
    rw [List.append_assoc] at h2 ⊢
    exact h1.trans h2

/-! ### the fuel of `lexAll` (number of `next` calls): `length + 2` always suffices

`ws_insensitive` compares the two runs with the same fuel.  A caller computes the fuel from the
length of the text (the driver passes `length + 4`), and the two texts differ in length — so: the
result of `lexAll` does not depend on the fuel once it exceeds `length + 1`. -/

/-- Upper bound on the number of tokens still to come: the fetches left (`C13.mu`), and the token
being built. -/
def nu (lx : Lexer) : Nat := C13.mu lx + if lx.state = .initial then 0 else 1

theorem nu_new (file : Nat) (cs : List Char) (ending : StreamEnd) :
    nu (Lexer.new file cs ending) = cs.length + 1 := rfl

open C13 in
/-- One iteration on a character just fetched: `continue` may start a token; a token ends the one
being built and may stash the character. -/
theorem lexChar_nu (T : LexTables) (l : Lexer) (c : Char) (h0 : l.stash = none) :
    match lexChar T l c with
    | .more l' => nu l' ≤ nu l + 1
    | .tok _ l' => nu l' ≤ nu l
    | _ => True := by
  obtain ⟨F, hF, h⟩ := lexChar_step₁ T l c
  rw [h]
  cases hF with
  | go s' b' hs => simp only [nu, mu, hs]; omega
  | start s' b' _ hs' => simp only [nu, mu, if_neg hs']; omega
  | newline => exact Nat.le_refl _
  | tok t b' f hs => simp [nu, mu, h0, hs]; split <;> omega
  | err | errEnd => trivial

open C13 in
theorem lexStep_nu (T : LexTables) (lx : Lexer) :
    match lexStep T lx with
    | .more lx' => nu lx' ≤ nu lx
    | .tok _ lx' => nu lx' < nu lx
    | _ => True := by
  rcases lexStep_cases T lx with ⟨l, c, hf, e⟩ | ⟨_, _, _, _, e⟩ | ⟨io, _, _, _, e⟩ <;> rw [e]
  · obtain ⟨h0, hst, _⟩ := hf.frame
    have hl : nu l + 1 = nu lx := by unfold nu; rw [hst, ← fetch_mu hf]; omega
    have := lexChar_nu T l c h0
    generalize lexChar T l c = o at this ⊢
    cases o with
    | more | tok => dsimp only at this ⊢; omega
    | err | done => trivial
  · trivial
  · trivial

/-- **The fuel of `lexAll` is immaterial once it exceeds `nu`** (for `Lexer.new`: the length of the
text + 1): the run is never cut short, more fuel changes nothing. -/
theorem lexAll_fuel_stable (T : LexTables) :
    ∀ f lx g, nu lx < f → nu lx < g → lexAll T f lx = lexAll T g lx := by
  refine lexAll_ind T (fun _ _ h => absurd h (Nat.not_lt_zero _)) fun f lx ihm iht g hf hg => ?_
  cases g with
  | zero => omega
  | succ g =>
    have hnu := lexStep_nu T lx
    rw [lexAll_step, lexAll_step]
    cases e : lexStep T lx with
    | more lx' =>
      have : nu lx' ≤ nu lx := by rw [e] at hnu; exact hnu
      exact ihm lx' e (g + 1) (by omega) (by omega)
    | tok t lx' =>
      have : nu lx' < nu lx := by rw [e] at hnu; exact hnu
      dsimp only
      rw [iht t lx' e g (by omega) (by omega)]
    | err | done => rfl

theorem lexAll_fuel_new (T : LexTables) (file : Nat) (cs : List Char) (ending : StreamEnd)
    (f g : Nat) (hf : cs.length + 2 ≤ f) (hg : cs.length + 2 ≤ g) :
    lexAll T f (Lexer.new file cs ending) = lexAll T g (Lexer.new file cs ending) :=
  lexAll_fuel_stable T f _ g (by rw [nu_new]; omega) (by rw [nu_new]; omega)

/-- **`ws_insensitive` with independent, sufficient fuels.**  As `ws_insensitive`, each run with
its own fuel, both at least (length of its text) + 2 — e.g. the driver's `length + 4`. -/
theorem ws_insensitive_fuel (T : LexTables) (file : Nat) (ending : StreamEnd) (pre post : List Char)
    (b : Char) (hb : isBlank b = true) (h : CleanAfter T file ending pre) (f1 f2 : Nat)
    (h1 : (pre ++ b :: post).length + 2 ≤ f1) (h2 : (pre ++ post).length + 2 ≤ f2) :
    eraseLoc (lexAll T f1 (Lexer.new file (pre ++ b :: post) ending)) =
      eraseLoc (lexAll T f2 (Lexer.new file (pre ++ post) ending)) := by
  have hlen : (pre ++ post).length + 2 ≤ f1 := by
    simp only [List.length_append, List.length_cons] at h1 ⊢; omega
  rw [lexAll_fuel_new T file (pre ++ post) ending f2 f1 h2 hlen]
  exact ws_insensitive T file ending pre post b hb h f1

theorem ws_run_fuel (T : LexTables) (file : Nat) (ending : StreamEnd) (pre post : List Char)
    (bs : List Char) (hbs : ∀ b ∈ bs, isBlank b = true) (h : CleanAfter T file ending pre)
    (f1 f2 : Nat) (h1 : (pre ++ bs ++ post).length + 2 ≤ f1) (h2 : (pre ++ post).length + 2 ≤ f2) :
    eraseLoc (lexAll T f1 (Lexer.new file (pre ++ bs ++ post) ending)) =
      eraseLoc (lexAll T f2 (Lexer.new file (pre ++ post) ending)) := by
  have hlen : (pre ++ post).length + 2 ≤ f1 := by
    simp only [List.length_append] at h1 ⊢; omega
  rw [lexAll_fuel_new T file (pre ++ post) ending f2 f1 h2 hlen]
  exact ws_run T file ending pre post bs hbs h f1

/-- `lda #1` and `lda  \t #1` (6502 tables): same tokens. -/
example : eraseLoc (lexAll (lexTables .mos6502) 12 (Lexer.new 0 "lda #1".toList)) =
    ([.op "Lda", .sym "Hash", .num 1, .newline], none) := by decide +kernel

example : eraseLoc (lexAll (lexTables .mos6502) 12 (Lexer.new 0 "lda  \t #1".toList)) =
    ([.op "Lda", .sym "Hash", .num 1, .newline], none) := by decide +kernel

/-- The hypothesis of `ws_insensitive` holds after `lda␠` (5 steps: three letters, the blank that
ends the identifier, the same blank again from the stash). -/
theorem clean_lda : CleanAfter (lexTables .mos6502) 0 .eof "lda ".toList :=
  CleanAfter_of_cleanAt 5 (by decide +kernel)

/-- `ws_run` applied with it, instead of running the lexer. -/
example (fuel : Nat) :
    eraseLoc (lexAll (lexTables .mos6502) fuel (Lexer.new 0 ("lda ".toList ++ " \t ".toList ++ "#1".toList))) =
      eraseLoc (lexAll (lexTables .mos6502) fuel (Lexer.new 0 ("lda ".toList ++ "#1".toList))) :=
  ws_run _ 0 .eof _ _ _ (by decide) clean_lda fuel

/-- At the very start of a text the hypothesis holds trivially (0 steps). -/
theorem clean_nil (T : LexTables) (file : Nat) (ending : StreamEnd) : CleanAfter T file ending [] :=
  ⟨0, _, rfl, rfl, rfl, rfl, rfl⟩

/-- After a complete string literal too (the closing quote returns to `initial`, nothing stashed). -/
example : CleanAfter (lexTables .mos6502) 0 .eof "\"a b\"".toList :=
  CleanAfter_of_cleanAt 5 (by decide +kernel)

/-- NEGATIVE: the hypothesis matters.  A blank inserted inside a string literal changes the string
token. -/
theorem string_blank_differs :
    eraseLoc (lexAll (lexTables .mos6502) 12 (Lexer.new 0 ("\"a ".toList ++ ' ' :: "b\"".toList))) ≠
      eraseLoc (lexAll (lexTables .mos6502) 12 (Lexer.new 0 ("\"a ".toList ++ "b\"".toList))) := by
  decide +kernel

example : eraseLoc (lexAll (lexTables .mos6502) 12 (Lexer.new 0 "\"a  b\"".toList)) =
    ([.str "a  b", .newline], none) := by decide +kernel

example : eraseLoc (lexAll (lexTables .mos6502) 12 (Lexer.new 0 "\"a b\"".toList)) =
    ([.str "a b", .newline], none) := by decide +kernel

/-- So the point after `"a␠` is not between tokens, for any number of steps (`ws_insensitive` would
contradict `string_blank_differs`); the state reached there is `inString`. -/
theorem not_clean_in_string : ¬ CleanAfter (lexTables .mos6502) 0 .eof "\"a ".toList :=
  fun h => string_blank_differs (ws_insensitive _ 0 .eof _ _ ' ' (by decide) h 12)

example : (stepsN (lexTables .mos6502) 3 (Lexer.new 0 "\"a ".toList)).map (fun l => (l.state, l.input)) =
    some (.inString, []) := by decide +kernel

/-- NEGATIVE: a line feed is not a blank — it is a token. -/
example : eraseLoc (lexAll (lexTables .mos6502) 12 (Lexer.new 0 "lda \n#1".toList)) =
    ([.op "Lda", .newline, .sym "Hash", .num 1, .newline], none) := by decide +kernel

/-- NEGATIVE: a blank inside an identifier splits it (the state after `ld` is `inIdentifier`). -/
example : eraseLoc (lexAll (lexTables .mos6502) 12 (Lexer.new 0 "ld a".toList)) =
    ([.label .global "ld", .reg "A", .newline], none) := by decide +kernel

/-- With the fuels a caller derives from the two lengths (the driver's `length + 4`). -/
example :
    eraseLoc (lexAll (lexTables .mos6502) (("lda ".toList ++ " \t ".toList ++ "#1".toList).length + 4)
        (Lexer.new 0 ("lda ".toList ++ " \t ".toList ++ "#1".toList))) =
      eraseLoc (lexAll (lexTables .mos6502) (("lda ".toList ++ "#1".toList).length + 4)
        (Lexer.new 0 ("lda ".toList ++ "#1".toList))) :=
  ws_run_fuel _ 0 .eof _ _ _ (by decide) clean_lda _ _ (by omega) (by omega)

/-- The bound `length + 2` is needed for some texts: `a⏎` has 3 tokens, fuel 2 cuts the run. -/
example : (lexAll (lexTables .mos6502) 2 (Lexer.new 0 "a\n".toList)).1.length = 2 ∧
    (lexAll (lexTables .mos6502) 3 (Lexer.new 0 "a\n".toList)).1.length = 3 ∧
    (lexAll (lexTables .mos6502) 4 (Lexer.new 0 "a\n".toList)).1.length = 3 := by decide +kernel

end Az65.Thm.C18Ws
