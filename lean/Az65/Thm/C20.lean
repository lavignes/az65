import Az65.Model.Export
import Az65.Lemmas.AbsFrame
/-
C20 — symbol metadata is exact and debug exports agree with the final symbol table.

The theorems cover the metadata each defining effect attaches (`*_meta`) and the JSON export
(`json_each_once`).  `@getmeta`, and which symbols the `.sym` / `.nl` exporters select and how they
write them, have no theorem: the export Model (`Model/Export.lean`) is compared with the files the
implementation writes and with a reference table, on runs.
-/
namespace Az65.Thm.C20
open Az65 Az65.Export

/-- A symbol defined while a `@meta` block is in force carries exactly those pairs. -/
theorem insert_carries_meta (c : CoreSt) (n : String) (s : Sym) :
    (c.insert n s).symtab.get n = some ⟨s, c.curMeta⟩ :=
  c.insertWithMeta_get_self n s c.curMeta

theorem label_carries_meta (c c' : CoreSt) (d : String) (loc : Loc) (h : Eff.label c d loc = .ok c') :
    c'.symtab.get d = some ⟨.val (i32OfNat c.here), c.curMeta⟩ := by
  obtain ⟨_, rfl⟩ := Eff.label_eq_ok.1 h
  exact insert_carries_meta ..

/-- `@defl` keeps the metadata in force; `@defn` (constants) carries none. -/
theorem define_meta (c c' : CoreSt) (keep : Bool) (d : String) (ns : List Node) (loc : Loc)
    (h : Eff.define c keep d ns loc = .ok c') :
    c'.symtab.get d = some ⟨.expr ns, if keep then c.curMeta else []⟩ := by
  obtain ⟨_, rfl⟩ := Eff.define_eq_ok.1 h
  exact CoreSt.insertWithMeta_get_self ..

theorem redefine_meta (c : CoreSt) (keep : Bool) (d : String) (ns : List Node) :
    (Eff.redefine c keep d ns).symtab.get d = some ⟨.expr ns, if keep then c.curMeta else []⟩ := by
  rw [Eff.redefine_eq]; exact CoreSt.insertWithMeta_get_self ..

/-- A struct field carries only its size. -/
theorem field_meta (c c' : CoreSt) (d : String) (size fs size' : I32) (t : String) (loc : Loc)
    (h : Eff.structField c d size fs t loc = .ok (c', size')) :
    c'.symtab.get d = some ⟨.val size, [("@SIZEOF", t)]⟩ := by
  obtain ⟨_, hc⟩ := Eff.structField_eq_ok.1 h
  cases hc; exact CoreSt.insertWithMeta_get_self ..

theorem rowsOf_spec (c : CoreSt) : ∀ (tab : Env) (l : List (String × Entry × I32)), rowsOf c tab = .ok l →
    l.map (fun r => (r.1, r.2.1)) = tab ∧ ∀ r ∈ l, finalValue c r.2.1 = some r.2.2 := by
  intro tab
  fun_induction rowsOf c tab with
  | case1 => intro l h; cases h; exact ⟨rfl, nofun⟩
  | case2 n e r hv => intro l h; cases h  -- `n` has no final value
  | case3 n e r v hv x hr ih => intro l h; cases h  -- a later symbol has none
  | case4 n e r v hv l' hr ih =>
    intro l h
    cases h
    obtain ⟨h1, h2⟩ := ih l' hr
    exact ⟨by rw [List.map_cons, h1], List.forall_mem_cons.2 ⟨hv, h2⟩⟩

/-- **C20 (JSON lists every symbol exactly once).**  When the JSON export succeeds, its records
are, in table order, exactly the symbols of the final table — same names (hence each symbol once
if the table's keys are distinct, which `Env.set` maintains but no theorem states), each with
exactly its metadata and its final value. -/
theorem json_each_once (c : CoreSt) (l : List JsonSym) (h : json c = .ok l) :
    l.map (fun j => (j.name, j.metas)) = c.symtab.map (fun p => (p.1, p.2.metas)) ∧
    ∀ j ∈ l, ∃ e, (j.name, e) ∈ c.symtab ∧ j.metas = e.metas ∧ (finalValue c e).map BitVec.toInt = some j.value := by
  unfold json at h
  cases hr : rowsOf c c.symtab with
  | error x => simp [hr] at h
  | ok rows =>
    simp only [hr, Except.ok.injEq] at h
    subst h
    obtain ⟨h1, h2⟩ := rowsOf_spec c _ rows hr
    refine ⟨?_, ?_⟩
    · rw [← h1]; simp [List.map_map, Function.comp_def]
    · intro j hj
      simp only [List.mem_map] at hj
      obtain ⟨row, hrow, rfl⟩ := hj
      refine ⟨row.2.1, ?_, rfl, by simp [h2 row hrow]⟩
      rw [← h1]; simp only [List.mem_map]; exact ⟨row, hrow, rfl⟩

/-- An unsolvable symbol makes the row list the error naming it — the first such symbol in table
order. -/
theorem rowsOf_first_unsolved (c : CoreSt) (n : String) (e : Entry) (post : Env)
    (hv : finalValue c e = none) : ∀ pre : Env, (∀ p ∈ pre, finalValue c p.2 ≠ none) →
      rowsOf c (pre ++ (n, e) :: post) = .error n
  | [], _ => by simp [rowsOf, hv]
  | (m, x) :: pre, hpre => by
    have ih := rowsOf_first_unsolved c n e post hv pre fun p hp => hpre p (List.mem_cons_of_mem _ hp)
    cases hx : finalValue c x with
    | none => exact absurd hx (hpre (m, x) List.mem_cons_self)
    | some v => simp [rowsOf, hx, ih]

/-- **C20 (unsolvable symbol).**  If the first entry of the final table has no final value, the JSON
export is the error naming that symbol (`rowsOf_first_unsolved` with nothing before it). -/
theorem json_unsolved_is_error (c : CoreSt) (n : String) (e : Entry) (rest : Env)
    (h : c.symtab = (n, e) :: rest) (hv : finalValue c e = none) : json c = .error n := by
  have hr := rowsOf_first_unsolved c n e rest hv [] nofun
  rw [List.nil_append, ← h] at hr
  rw [json, hr]

/-- The `.sym` / `.nl` exports fail exactly when the JSON export does: all three start from
`rowsOf`. -/
theorem sym_nl_error_iff_json (c : CoreSt) :
    ((sym c).toOption.isSome = (json c).toOption.isSome) ∧ ((nl c).toOption.isSome = (json c).toOption.isSome) := by
  unfold sym nl json
  cases rowsOf c c.symtab <;> simp [bind, Except.bind, pure, Except.pure, Except.toOption]

/-- `u16`, which the export Model puts in the value field of every `.sym` / `.nl` line, is a 16-bit
number. -/
theorem u16_lt (v : I32) : u16 v < 65536 := by unfold u16; omega

example : (({} : CoreSt).insert "x" (.val 5)).symtab.get "x" = some ⟨.val 5, []⟩ := insert_carries_meta {} "x" (.val 5)

end Az65.Thm.C20
