import Az65.Model.Asm
/-
C12 — @include/@incbin find the documented file and behave as textual inclusion.
Theorems about the search rule of the Model (`searchFile`, the mirror of `FileManager::search`)
only; the directory stack kept along the source stack and inclusion as text are compared on
programs.
-/
namespace Az65.Thm.C12
open Az65

/-- The candidate paths, in the documented order: the directory of the file that contains the
directive first, then each search path in the order given. -/
def candidates (searchPaths : List String) (cwd path : String) : List String :=
  (cwd :: searchPaths).map fun d => absolutize d path

/-- **C12 (first existing candidate wins).**  The search returns `p` exactly when the candidate
list splits as `before ++ p :: after` with `p` a regular file and no candidate in `before` one. -/
theorem search_first (fs : FileSys) (sps : List String) (cwd path p : String) :
    searchFile fs sps cwd path = some p ↔
      fs.isFile p = true ∧ ∃ before after, candidates sps cwd path = before ++ p :: after ∧
        ∀ q ∈ before, fs.isFile q = false := by
  simp only [searchFile, candidates, List.find?_eq_some_iff_append, Bool.not_eq_true']

/-- A missing file: the search fails exactly when no candidate is a regular file. -/
theorem search_none (fs : FileSys) (sps : List String) (cwd path : String) :
    searchFile fs sps cwd path = none ↔ ∀ q ∈ candidates sps cwd path, fs.isFile q = false := by
  simp only [searchFile, candidates, List.find?_eq_none, Bool.not_eq_true]

/-- The including file's own directory has priority over every search path. -/
theorem own_directory_first (fs : FileSys) (sps : List String) (cwd path : String)
    (h : fs.isFile (absolutize cwd path) = true) :
    searchFile fs sps cwd path = some (absolutize cwd path) := by
  simp [searchFile, h]

/-- The first search path wins over the later ones when it holds the file and the own directory
does not (in general: `search_first`). -/
theorem search_path_order (fs : FileSys) (d1 d2 : String) (rest : List String) (cwd path : String)
    (h0 : fs.isFile (absolutize cwd path) = false) (h1 : fs.isFile (absolutize d1 path) = true) :
    searchFile fs (d1 :: d2 :: rest) cwd path = some (absolutize d1 path) := by
  simp [searchFile, List.find?, h0, h1]

/-- An absolute name does not depend on the directory it is looked up from. -/
theorem absolute_independent (d1 d2 path : String) (h : path.startsWith "/" = true) :
    absolutize d1 path = absolutize d2 path := by
  simp [absolutize, h]

/-! non-vacuity (evaluated, not kernel-reduced: `String.splitOn` does not reduce in the kernel) -/
#guard searchFile { files := [{ path := "/inc/a.inc", data := [1] }, { path := "/p/a.inc", data := [2] }] }
    ["/inc"] "/p" "a.inc" == some "/p/a.inc"
#guard searchFile { files := [{ path := "/inc/a.inc", data := [1] }] } ["/x", "/inc"] "/p" "a.inc" ==
    some "/inc/a.inc"
#guard searchFile { files := [{ path := "/inc/a.inc", data := [1] }] } ["/x"] "/p" "a.inc" == none
#guard absolutize "/p/q" "../r/./a.inc" == "/p/r/a.inc"

end Az65.Thm.C12
