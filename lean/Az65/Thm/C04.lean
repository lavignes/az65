import Az65.Lemmas.ExprBridge
/-
C04 — expressions evaluate as C expressions over wrapping 32-bit signed integers.

The evaluator half: `evalList` on the postfix code `compile t` against `Spec.denote t`.  The parser
half is `Thm/C04Parse.lean`, the BitVec ↔ Int bridge per operator `Lemmas/ExprBridge.lean`.
-/
namespace Az65.Thm.C04
open Az65 Az65.Spec Az65.Bridge

def resOf : Option Int → Res I32
  | some v => .ok (BitVec.ofInt 32 v)
  | none => .unsolved

/-- The hypothesis of every theorem here: `σ` says what the evaluator's two table accesses return —
`labelStep`, with lazy symbols, their recursive evaluation `lazy` and cycles behind it, and
`sizeOfStep` — and thereby that neither crashes. -/
structure Agrees (lazy : List String → List Node → Res I32) (env : Env) (vis : List String)
    (σ : Valuation) : Prop where
  val : ∀ x, labelStep lazy env vis x = resOf (σ.val x)
  size : ∀ x, sizeOfStep env x = resOf (σ.size x)
  valR : ∀ x v, σ.val x = some v → InR v
  sizeR : ∀ x v, σ.size x = some v → InR v

private theorem step_val (lazy env vis v ns st) :
    evalList lazy env vis (.val v :: ns) st = evalList lazy env vis ns (v :: st) := rfl

private theorem step_label (lazy env vis x ns st) :
    evalList lazy env vis (.label x :: ns) st =
      match labelStep lazy env vis x with
      | .ok v => evalList lazy env vis ns (v :: st)
      | .unsolved => .unsolved
      | .crash s => .crash s := rfl

private theorem step_sizeOf (lazy env vis x ns st) :
    evalList lazy env vis (.sizeOf x :: ns) st =
      match sizeOfStep env x with
      | .ok v => evalList lazy env vis ns (v :: st)
      | .unsolved => .unsolved
      | .crash s => .crash s := rfl

private theorem step_tern (lazy env vis ns r l c st) :
    evalList lazy env vis (.ternary :: ns) (r :: l :: c :: st) =
      evalList lazy env vis ns ((if c != 0 then l else r) :: st) := rfl

private theorem step_bin (lazy env vis) (o : BinOp) (r l : I32) :
    ∃ f, bin2 o.node = some f ∧ ∀ ns st,
      evalList lazy env vis (o.node :: ns) (r :: l :: st) =
        match (match f l r with
               | some v => Res.ok (v :: st)
               | none => Res.unsolved) with
        | .ok st' => evalList lazy env vis ns st'
        | .unsolved => .unsolved
        | .crash s => .crash s := by
  cases o <;> exact ⟨_, rfl, fun _ _ => rfl⟩

section
variable (lazy : List String → List Node → Res I32) (env : Env) (vis : List String)

/-- `code` consumes the values `pre` on top of the stack and pushes the C value `d`, or is "could
not be solved" where C gives none.  Stated for every continuation `rest` and every stack `st`
below, which is what lets fragments be put in sequence (`Pushes.seq`) and the induction over the
tree (`compile_pushes`) go through without generalising anything. -/
def Pushes (pre : List I32) (code : List Node) (d : Option Int) : Prop :=
  match d with
  | some v => ∃ x : I32, x.toInt = v ∧ ∀ rest st,
      evalList lazy env vis (code ++ rest) (pre ++ st) = evalList lazy env vis rest (x :: st)
  | none => ∀ rest st, evalList lazy env vis (code ++ rest) (pre ++ st) = .unsolved

variable {lazy env vis}

theorem Pushes.seq {pre : List I32} {c1 c2 : List Node} {d1 : Option Int} {g : Int → Option Int}
    (h1 : Pushes lazy env vis [] c1 d1)
    (h2 : ∀ x : I32, Pushes lazy env vis (x :: pre) c2 (g x.toInt)) :
    Pushes lazy env vis pre (c1 ++ c2) (d1.bind g) := by
  cases d1 with
  | none => intro rest st; rw [List.append_assoc]; exact h1 _ _
  | some v =>
    obtain ⟨x, rfl, hx⟩ := h1
    have h2 := h2 x
    rw [Option.bind_some]
    unfold Pushes at h2 ⊢
    split at h2
    · obtain ⟨z, hz, h⟩ := h2
      exact ⟨z, hz, fun rest st => by rw [List.append_assoc]; exact (hx _ _).trans (h rest st)⟩
    · intro rest st; rw [List.append_assoc]; exact (hx _ _).trans (h2 rest st)

theorem Pushes.access {n : Node} {r : Res I32} {d : Option Int}
    (step : ∀ ns st, evalList lazy env vis (n :: ns) st =
      match r with
      | .ok v => evalList lazy env vis ns (v :: st)
      | .unsolved => .unsolved
      | .crash s => .crash s)
    (hr : r = resOf d) (hin : ∀ v, d = some v → InR v) : Pushes lazy env vis [] [n] d := by
  subst hr
  cases d with
  | none => exact step
  | some v => exact ⟨_, toInt_ofInt_of_inR (hin v rfl), step⟩

theorem run_un (o : UnOp) (x : I32) :
    Pushes lazy env vis [x] (match o.node with | some n => [n] | none => [])
      (some (unSem o x.toInt)) := by
  have hb := un_bridge o x
  cases o <;> simp only [UnOp.node, un1, Option.map, Option.some.injEq] at hb <;>
    exact ⟨_, hb, fun _ _ => rfl⟩

theorem run_bin (o : BinOp) (l r : I32) :
    Pushes lazy env vis [r, l] [o.node] (binSem o l.toInt r.toInt) := by
  obtain ⟨f, hf, hstep⟩ := step_bin lazy env vis o r l
  have hb := bin_bridge o l r
  rw [hf] at hb
  simp only [Option.map, Option.some.injEq] at hb
  rw [← hb]
  cases hv : f l r with
  | none => intro ns st; exact (hstep ns st).trans (by rw [hv])
  | some w => exact ⟨w, rfl, fun ns st => (hstep ns st).trans (by rw [hv])⟩

theorem run_tern (c a b : I32) :
    Pushes lazy env vis [b, a, c] [.ternary]
      (some (if c.toInt ≠ 0 then a.toInt else b.toInt)) := by
  refine ⟨if c != 0 then a else b, ?_, fun ns st => step_tern ..⟩
  have : (c != 0) = decide (c.toInt ≠ 0) := by rw [Bridge.bne_eq]; rfl
  rw [this]
  by_cases h0 : c.toInt = 0 <;> simp [h0]

variable {σ : Valuation}

/-- `denote`'s simultaneous `match` as nested `bind`s, the shape `Pushes.seq` produces. -/
theorem denote_bin (o : BinOp) (l r : CExpr) :
    denote σ (.bin o l r) =
      (denote σ l).bind fun a => (denote σ r).bind fun b => binSem o a b := by
  rw [denote]; cases denote σ l <;> cases denote σ r <;> rfl

theorem denote_tern (c a b : CExpr) :
    denote σ (.tern c a b) = (denote σ c).bind fun vc => (denote σ a).bind fun va =>
      (denote σ b).bind fun vb => some (if vc ≠ 0 then va else vb) := by
  rw [denote]; cases denote σ c <;> cases denote σ a <;> cases denote σ b <;> rfl

theorem compile_pushes (H : Agrees lazy env vis σ) (t : CExpr) :
    Pushes lazy env vis [] (compile t) (denote σ t) := by
  induction t with
  | num v => exact ⟨BitVec.ofInt 32 v, BitVec.toInt_ofInt .., fun _ _ => rfl⟩
  | sym x => exact .access (step_label lazy env vis x) (H.val x) (H.valR x)
  | sizeOf x => exact .access (step_sizeOf lazy env vis x) (H.size x) (H.sizeR x)
  | un o e ih => rw [denote, Option.map_eq_bind]; exact ih.seq fun x => run_un o x
  | bin o l r ihl ihr =>
    rw [denote_bin, compile, List.append_assoc]
    exact ihl.seq fun x => ihr.seq fun y => run_bin o x y
  | tern c a b ihc iha ihb =>
    rw [denote_tern, compile, List.append_assoc, List.append_assoc]
    exact ihc.seq fun x => iha.seq fun y => ihb.seq fun z => run_tern x y z

end

/-- **C04 (evaluator).**  Under a valuation that `Agrees` with the symbol table, for every tree `t`,
continuation `rest` and stack `st`: the evaluator run on `compile t ++ rest` goes on with `rest`
and the value C gives `t` over wrapping 32-bit integers (`Spec.denote`) pushed on `st`; where
`denote` gives none — a zero divisor or an unsolvable name anywhere in `t`, no operand is skipped —
the outcome is "could not be solved".  In neither case does `compile t` crash. -/
theorem evalList_compile {lazy env vis σ} (H : Agrees lazy env vis σ) :
    ∀ (t : CExpr) (rest : List Node) (st : List I32),
      evalList lazy env vis (compile t ++ rest) st =
        match denote σ t with
        | some r => evalList lazy env vis rest (BitVec.ofInt 32 r :: st)
        | none => .unsolved := by
  intro t rest st
  have h := compile_pushes H t
  unfold Pushes at h
  split at h
  · obtain ⟨x, rfl, hx⟩ := h; rw [BitVec.ofInt_toInt]; exact hx rest st
  · exact h rest st

/-- `evalList_compile` for a whole expression (`rest = []`, empty stack): the outcome is C's value
or "could not be solved". -/
theorem eval_compile {lazy env vis σ} (H : Agrees lazy env vis σ) (t : CExpr) :
    evalList lazy env vis (compile t) [] = resOf (denote σ t) := by
  have := evalList_compile H t [] []
  rw [List.append_nil] at this
  rw [this]
  cases denote σ t <;> simp [resOf, evalList]

/-- **C04 (totality).**  Under `Agrees` — which includes that no table access crashes — evaluating
a compiled tree is not a crash: no `crash "pop"` (empty stack), no `crash "node"`.  That a zero
divisor is "could not be solved" and that `INT_MIN` negation and `INT_MIN / -1` wrap is how `bin2`
and `un1` are defined (examples at the end), tied to the Rust by the correspondence. -/
theorem eval_total {lazy env vis σ} (H : Agrees lazy env vis σ) (t : CExpr) :
    (evalList lazy env vis (compile t) []).isCrash = false := by
  rw [eval_compile H]; cases denote σ t <;> rfl

/-- `Agrees` is satisfiable: a table holding only plain values and no metadata agrees, whatever
`lazy` is, with the valuation that reads them. -/
theorem agrees_values (lazy) (env : Env) (vis)
    (hv : ∀ x e, env.get x = some e → ∃ v, e.sym = .val v)
    (hs : ∀ x e, env.get x = some e → e.metas = []) :
    Agrees lazy env vis
      { val := fun x => (env.get x).bind fun e =>
          match e.sym with | .val v => some v.toInt | .expr _ => none,
        size := fun _ => none } := by
  refine ⟨?_, ?_, ?_, ?_⟩
  · intro x
    simp only [labelStep]
    cases h : env.get x with
    | none => simp [resOf]
    | some e =>
      obtain ⟨v, hv'⟩ := hv x e h
      simp [hv', resOf]
  · intro x
    simp only [sizeOfStep]
    cases h : env.get x with
    | none => simp [resOf]
    | some e => simp [hs x e h, resOf]
  · intro x v h
    cases hg : env.get x with
    | none => simp [hg] at h
    | some e =>
      obtain ⟨w, hw⟩ := hv x e hg
      simp [hg, hw] at h; rw [← h]; exact inR_toInt _
  · intro x v h; simp at h

example : denote ⟨fun _ => none, fun _ => none⟩ (.bin .bxor (.num 5) (.num 3)) = some 6 := by decide
example : denote ⟨fun _ => none, fun _ => none⟩ (.bin .div (.num 1) (.num 0)) = none := by decide
example : denote ⟨fun _ => none, fun _ => none⟩ (.un .neg (.num (-2147483648))) = some (-2147483648) := by
  decide
example : denote ⟨fun _ => none, fun _ => none⟩
    (.bin .div (.num (-2147483648)) (.num (-1))) = some (-2147483648) := by decide

end Az65.Thm.C04
