import Az65.Spec.Opnd
/-
Spec for property C03 — the MOS 6502 instruction set as an independent oracle.

Written from the published structure of the NMOS 6502 opcode matrix, *not* from the assembler:
most opcodes have the bit layout `aaabbbcc`, where `cc` selects one of three instruction groups,
`aaa` the operation inside the group and `bbb` the addressing mode; the remaining opcodes
(branches `xxy10000`, `jsr`, and the one-byte instructions) are the documented exception list.
56 mnemonics, 13 addressing modes, 151 legal opcodes.

Bytes are `Nat`s (0..255), operand values are `Int`s (what the source expression evaluates to).
-/
namespace Az65.Spec.Mos6502
open Az65.Spec

/-- The 56 mnemonics of the NMOS 6502. -/
inductive Mn where
  | adc | and | asl | bcc | bcs | beq | bit | bmi | bne | bpl | brk | bvc | bvs | clc
  | cld | cli | clv | cmp | cpx | cpy | dec | dex | dey | eor | inc | inx | iny | jmp
  | jsr | lda | ldx | ldy | lsr | nop | ora | pha | php | pla | plp | rol | ror | rti
  | rts | sbc | sec | sed | sei | sta | stx | sty | tax | tay | tsx | txa | txs | tya
  deriving Repr, DecidableEq

/-- The 13 addressing modes. -/
inductive AMode where
  | implied | accumulator | immediate | zeroPage | zeroPageX | zeroPageY
  | absolute | absoluteX | absoluteY | indirect | indirectX | indirectY | relative
  deriving Repr, DecidableEq

def Mn.all : List Mn :=
  [.adc, .and, .asl, .bcc, .bcs, .beq, .bit, .bmi, .bne, .bpl, .brk, .bvc, .bvs, .clc,
   .cld, .cli, .clv, .cmp, .cpx, .cpy, .dec, .dex, .dey, .eor, .inc, .inx, .iny, .jmp,
   .jsr, .lda, .ldx, .ldy, .lsr, .nop, .ora, .pha, .php, .pla, .plp, .rol, .ror, .rti,
   .rts, .sbc, .sec, .sed, .sei, .sta, .stx, .sty, .tax, .tay, .tsx, .txa, .txs, .tya]

def AMode.all : List AMode :=
  [.implied, .accumulator, .immediate, .zeroPage, .zeroPageX, .zeroPageY,
   .absolute, .absoluteX, .absoluteY, .indirect, .indirectX, .indirectY, .relative]

/-! ### Opcode map -/

/-- Where a mnemonic lives in the opcode matrix. -/
inductive Cls where
  /-- `aaabbb01`: the eight accumulator/memory ALU operations -/
  | g1 (aaa : Nat)
  /-- `aaabbb10`: shifts/rotates, `stx`/`ldx`, `dec`/`inc` -/
  | g2 (aaa : Nat)
  /-- `aaabbb00`: `bit`, `sty`, `ldy`, `cpy`, `cpx` -/
  | g0 (aaa : Nat)
  /-- `jmp`: `aaabbb00` with `bbb = 3`, `aaa = 2` (absolute) or `aaa = 3` (indirect) -/
  | jmp
  /-- conditional branch `xxy10000`: `xx` = flag (N,V,C,Z), `y` = value the flag is compared with -/
  | branch (xx y : Nat)
  /-- `jsr` abs: the one three-byte instruction in the `x0` column of the exception list -/
  | jsr
  /-- one-byte instruction, implied addressing, with its opcode from the exception list -/
  | single (op : Nat)
  deriving Repr, DecidableEq

def cls : Mn → Cls
  -- cc = 01
  | .ora => .g1 0 | .and => .g1 1 | .eor => .g1 2 | .adc => .g1 3
  | .sta => .g1 4 | .lda => .g1 5 | .cmp => .g1 6 | .sbc => .g1 7
  -- cc = 10
  | .asl => .g2 0 | .rol => .g2 1 | .lsr => .g2 2 | .ror => .g2 3
  | .stx => .g2 4 | .ldx => .g2 5 | .dec => .g2 6 | .inc => .g2 7
  -- cc = 00
  | .bit => .g0 1 | .sty => .g0 4 | .ldy => .g0 5 | .cpy => .g0 6 | .cpx => .g0 7
  | .jmp => .jmp
  -- branches: flag N=0 V=1 C=2 Z=3; taken when flag = y
  | .bpl => .branch 0 0 | .bmi => .branch 0 1 | .bvc => .branch 1 0 | .bvs => .branch 1 1
  | .bcc => .branch 2 0 | .bcs => .branch 2 1 | .bne => .branch 3 0 | .beq => .branch 3 1
  | .jsr => .jsr
  -- column x0 of rows 0,4,6
  | .brk => .single 0x00 | .rti => .single 0x40 | .rts => .single 0x60
  -- column x8
  | .php => .single 0x08 | .plp => .single 0x28 | .pha => .single 0x48 | .pla => .single 0x68
  | .dey => .single 0x88 | .tay => .single 0xA8 | .iny => .single 0xC8 | .inx => .single 0xE8
  | .clc => .single 0x18 | .sec => .single 0x38 | .cli => .single 0x58 | .sei => .single 0x78
  | .tya => .single 0x98 | .clv => .single 0xB8 | .cld => .single 0xD8 | .sed => .single 0xF8
  -- column xA of rows 8..E
  | .txa => .single 0x8A | .txs => .single 0x9A | .tax => .single 0xAA | .tsx => .single 0xBA
  | .dex => .single 0xCA | .nop => .single 0xEA

/-- Assemble the bit fields `aaabbbcc`. -/
def pat (aaa bbb cc : Nat) : Nat := aaa * 32 + bbb * 4 + cc

/-- `aaabbb01`. bbb: 0 `(zp,x)`  1 `zp`  2 `#imm`  3 `abs`  4 `(zp),y`  5 `zp,x`  6 `abs,y`  7 `abs,x`;
the one hole is `sta #imm`. -/
def opcodeG1 (mn : Mn) (a : Nat) : AMode → Option Nat
  | .indirectX => some (pat a 0 1)
  | .zeroPage => some (pat a 1 1)
  | .immediate => if mn = .sta then none else some (pat a 2 1)
  | .absolute => some (pat a 3 1)
  | .indirectY => some (pat a 4 1)
  | .zeroPageX => some (pat a 5 1)
  | .absoluteY => some (pat a 6 1)
  | .absoluteX => some (pat a 7 1)
  | _ => none

/-- `aaabbb10`. bbb: 0 `#imm` (`ldx` only)  1 `zp`  2 `A` (shifts/rotates only)  3 `abs`  5 `zp,x`
7 `abs,x`; `stx`/`ldx` index with Y instead of X, and there is no `stx abs,y`. -/
def opcodeG2 (mn : Mn) (a : Nat) : AMode → Option Nat
  | .immediate => if mn = .ldx then some (pat a 0 2) else none
  | .zeroPage => some (pat a 1 2)
  | .accumulator => if a < 4 then some (pat a 2 2) else none
  | .absolute => some (pat a 3 2)
  | .zeroPageX => if mn = .stx ∨ mn = .ldx then none else some (pat a 5 2)
  | .zeroPageY => if mn = .stx ∨ mn = .ldx then some (pat a 5 2) else none
  | .absoluteX => if mn = .stx ∨ mn = .ldx then none else some (pat a 7 2)
  | .absoluteY => if mn = .ldx then some (pat a 7 2) else none
  | _ => none

/-- `aaabbb00`. bbb: 0 `#imm` (`ldy cpy cpx`)  1 `zp`  3 `abs`  5 `zp,x` (`sty ldy`)  7 `abs,x` (`ldy`). -/
def opcodeG0 (mn : Mn) (a : Nat) : AMode → Option Nat
  | .immediate => if mn = .ldy ∨ mn = .cpy ∨ mn = .cpx then some (pat a 0 0) else none
  | .zeroPage => some (pat a 1 0)
  | .absolute => some (pat a 3 0)
  | .zeroPageX => if mn = .sty ∨ mn = .ldy then some (pat a 5 0) else none
  | .absoluteX => if mn = .ldy then some (pat a 7 0) else none
  | _ => none

/-- `jmp abs` = `010 011 00`, `jmp (abs)` = `011 011 00`. -/
def opcodeJmp : AMode → Option Nat
  | .absolute => some (pat 2 3 0)
  | .indirect => some (pat 3 3 0)
  | _ => none

/-- The opcode of a (mnemonic, addressing mode) pair, `none` when the 6502 has no such instruction. -/
def opcode (mn : Mn) (mode : AMode) : Option Nat :=
  match cls mn with
  | .g1 a => opcodeG1 mn a mode
  | .g2 a => opcodeG2 mn a mode
  | .g0 a => opcodeG0 mn a mode
  | .jmp => opcodeJmp mode
  | .branch xx y => if mode = .relative then some (xx * 64 + y * 32 + 16) else none
  | .jsr => if mode = .absolute then some 0x20 else none
  | .single op => if mode = .implied then some op else none

/-- All legal (mnemonic, mode, opcode) rows, enumerated from `opcode`. -/
def legal : List (Mn × AMode × Nat) :=
  Mn.all.flatMap fun mn => AMode.all.filterMap fun md => (opcode mn md).map fun op => (mn, md, op)

/-- One evaluation of the table for the three facts below. -/
private theorem legal_table :
    legal.length = 151 ∧ (legal.map (·.2.2)).Nodup ∧ ∀ row ∈ legal, row.2.2 < 256 := by
  decide +kernel

theorem legal_count : legal.length = 151 := legal_table.1

theorem legal_opcodes_nodup : (legal.map (·.2.2)).Nodup := legal_table.2.1

theorem legal_opcodes_byte : ∀ row ∈ legal, row.2.2 < 256 := legal_table.2.2

/-- The (mnemonic, mode) pair with a given opcode byte. -/
def lookup (op : Nat) : Option (Mn × AMode) :=
  (legal.find? fun row => row.2.2 == op).map fun row => (row.1, row.2.1)

/-! ### Instructions, encoding, decoding -/

/-- A 6502 instruction: `v` is the written operand value (0 for implied / accumulator); for
`relative` it is the written *target address*, not the displacement. -/
structure Instr where
  mn : Mn
  mode : AMode
  v : Int
  deriving Repr, DecidableEq

/-- Operand shape of an addressing mode. -/
inductive OpSize where
  | none | byte | word | rel
  deriving Repr, DecidableEq

def opSize : AMode → OpSize
  | .implied | .accumulator => .none
  | .immediate | .zeroPage | .zeroPageX | .zeroPageY | .indirectX | .indirectY => .byte
  | .absolute | .absoluteX | .absoluteY | .indirect => .word
  | .relative => .rel

/-- Operand in range: byte operands 0..255, word operands 0..65535, branch target within
-128..+127 of the address of the next instruction (`pc + 2`). -/
def wf (pc : Nat) (i : Instr) : Bool :=
  match opSize i.mode with
  | .none => i.v == 0
  | .byte => decide (0 ≤ i.v ∧ i.v ≤ 255)
  | .word => decide (0 ≤ i.v ∧ i.v ≤ 65535)
  | .rel => decide (-128 ≤ i.v - ((pc : Int) + 2) ∧ i.v - ((pc : Int) + 2) ≤ 127)

/-- Operand bytes, little-endian; a branch stores the two's-complement displacement from `pc + 2`. -/
def operandBytes (pc : Nat) (mode : AMode) (v : Int) : List Nat :=
  match opSize mode with
  | .none => []
  | .byte => [v.toNat % 256]
  | .word => [v.toNat % 256, v.toNat / 256 % 256]
  | .rel => [((v - ((pc : Int) + 2)) % 256).toNat]

/-- Machine code of an instruction placed at address `pc` (`[]` if the pair is not legal). -/
def enc (pc : Nat) (i : Instr) : List Nat :=
  match opcode i.mn i.mode with
  | none => []
  | some op => op :: operandBytes pc i.mode i.v

/-- Disassemble one instruction located at address `pc`. -/
def decode (pc : Nat) : List Nat → Option (Instr × List Nat)
  | [] => none
  | op :: bs =>
    match lookup op with
    | none => none
    | some (mn, mode) =>
      match opSize mode, bs with
      | .none, rest => some (⟨mn, mode, 0⟩, rest)
      | .byte, b :: rest => if b < 256 then some (⟨mn, mode, b⟩, rest) else none
      | .word, lo :: hi :: rest =>
        if lo < 256 ∧ hi < 256 then some (⟨mn, mode, (lo + 256 * hi : Nat)⟩, rest) else none
      | .rel, b :: rest =>
        if b < 256 then
          some (⟨mn, mode, (pc : Int) + 2 + (if b < 128 then (b : Int) else (b : Int) - 256)⟩, rest)
        else none
      | _, _ => none

/-! ### Source level -/

/-- Lower-case source spelling. -/
def Mn.name : Mn → String
  | .adc => "adc" | .and => "and" | .asl => "asl" | .bcc => "bcc" | .bcs => "bcs" | .beq => "beq"
  | .bit => "bit" | .bmi => "bmi" | .bne => "bne" | .bpl => "bpl" | .brk => "brk" | .bvc => "bvc"
  | .bvs => "bvs" | .clc => "clc" | .cld => "cld" | .cli => "cli" | .clv => "clv" | .cmp => "cmp"
  | .cpx => "cpx" | .cpy => "cpy" | .dec => "dec" | .dex => "dex" | .dey => "dey" | .eor => "eor"
  | .inc => "inc" | .inx => "inx" | .iny => "iny" | .jmp => "jmp" | .jsr => "jsr" | .lda => "lda"
  | .ldx => "ldx" | .ldy => "ldy" | .lsr => "lsr" | .nop => "nop" | .ora => "ora" | .pha => "pha"
  | .php => "php" | .pla => "pla" | .plp => "plp" | .rol => "rol" | .ror => "ror" | .rti => "rti"
  | .rts => "rts" | .sbc => "sbc" | .sec => "sec" | .sed => "sed" | .sei => "sei" | .sta => "sta"
  | .stx => "stx" | .sty => "sty" | .tax => "tax" | .tay => "tay" | .tsx => "tsx" | .txa => "txa"
  | .txs => "txs" | .tya => "tya"

/-- A mnemonic is written all lower-case or all upper-case. -/
def Mn.parse (s : String) : Option Mn :=
  Mn.all.find? fun mn => s == mn.name || s == mn.name.toUpper

def isBranch (mn : Mn) : Bool :=
  match cls mn with
  | .branch _ _ => true
  | _ => false

/-- The mnemonic has zero-page addressing at all (everything with a direct operand except
`jmp`, `jsr` and the branches). -/
def hasZeroPage (mn : Mn) : Bool := (opcode mn .zeroPage).isSome

/-- The statement's size rule: the short form is taken exactly when the operand value is already
known and at most `$FF` (and not negative). -/
def short (known : Bool) (v : Int) : Bool := known && decide (0 ≤ v ∧ v ≤ 255)

/-- The mnemonic has some indirect addressing mode (the eight `aaabbb01` operations and `jmp`). -/
def hasIndirect (mn : Mn) : Bool :=
  (opcode mn .indirect).isSome || (opcode mn .indirectX).isSome || (opcode mn .indirectY).isSome

/-- Parentheses are addressing-mode syntax only for mnemonics that have an indirect mode; for all
others an operand written `(E)` is just the expression `E` in grouping parentheses, so `(E)` is
the direct spelling `E` and `(E), y` is `E, y` (`ldx ($10), y` = `ldx $10, y`). -/
def normalize (mn : Mn) (md : Mode) : Mode :=
  if hasIndirect mn then md
  else
    match md with
    | .indirect v => .direct v
    | .indirectY v => .directY v
    | md => md

/-- The addressing mode a (normalized) source spelling asks for, before the legality check. -/
def candidate (mn : Mn) (md : Mode) (known : Bool) : AMode :=
  match md with
  | .implied => .implied
  | .acc => .accumulator
  | .immediate _ => .immediate
  | .indirect _ => .indirect
  | .indirectX _ => .indirectX
  | .indirectY _ => .indirectY
  | .direct v =>
    if isBranch mn then .relative
    else if hasZeroPage mn && short known v then .zeroPage else .absolute
  | .directX v => if hasZeroPage mn && short known v then .zeroPageX else .absoluteX
  | .directY v => if hasZeroPage mn && short known v then .zeroPageY else .absoluteY

/-- Source-level rule: the addressing mode selected for mnemonic `mn` written with operand
spelling `md`, where `known` says whether the operand value is known when the instruction is
assembled; `none` = rejected (the 6502 has no such instruction).

* `#E` immediate, `(E, x)` / `(E), y` / `(E)` the indirect modes, `a` accumulator, nothing implied;
* a branch mnemonic with `E`: relative;
* `E`, `E, x`, `E, y` on a mnemonic that has zero-page addressing: the zero-page form exactly when
  the value is known now and in `0..$FF`, the absolute form otherwise; on `jmp` / `jsr` (no
  zero-page addressing at all): absolute;
* the pair so selected must be a legal instruction — there is no fallback to the other width
  (`adc $10, y` selects zero-page,Y, which `adc` lacks: rejected; `stx fwd, y` selects
  absolute,Y, which `stx` lacks: rejected). -/
def expectedMode (mn : Mn) (md : Mode) (known : Bool) : Option AMode :=
  let c := candidate mn (normalize mn md) known
  if (opcode mn c).isSome then some c else none

/-- The written operand value (0 when nothing is written). -/
def modeValue : Mode → Int
  | .implied | .acc => 0
  | .immediate v | .direct v | .directX v | .directY v
  | .indirect v | .indirectX v | .indirectY v => v

def read (m : String) (md : Mode) (known : Bool) : Option Instr :=
  (Mn.parse m).bind fun mn =>
    (expectedMode mn md known).map fun mode => ⟨mn, mode, modeValue md⟩

/-- The canonical source spelling of an instruction. -/
def write (i : Instr) : String × Mode :=
  (i.mn.name,
    match i.mode with
    | .implied => .implied
    | .accumulator => .acc
    | .immediate => .immediate i.v
    | .zeroPage | .absolute | .relative => .direct i.v
    | .zeroPageX | .absoluteX => .directX i.v
    | .zeroPageY | .absoluteY => .directY i.v
    | .indirect => .indirect i.v
    | .indirectX => .indirectX i.v
    | .indirectY => .indirectY i.v)

/-- Expected machine code for mnemonic `m` with operand `md` at address `pc`; `none` = the
assembler must reject the line (at assembly or at link time) with a diagnostic. `md` carries the
*final* operand value; `known` says whether it was already known when the line was assembled. -/
def expected (pc : Nat) (m : String) (md : Mode) (known : Bool) : Option (List Nat) :=
  (read m md known).bind fun i => if wf pc i then some (enc pc i) else none

end Az65.Spec.Mos6502
