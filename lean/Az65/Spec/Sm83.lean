import Az65.Spec.Opnd
/-
Spec for C02: the SM83 (Game Boy LR35902) instruction set.

Written from the LR35902 opcode map, i.e. the Z80 `x/y/z` decomposition of the opcode byte
(`x = op / 64`, `y = op / 8 % 8`, `z = op % 8`, `p = y / 2`, `q = y % 2`) with the Game Boy
replacements (`ld (nn),sp`, `stop`, `ldh`, `ld (c),a`, `add sp,e`, `ld hl,sp+e`, `(hl+)`/`(hl-)`,
`ld (nn),a`, `reti`, `swap`), no `DD/ED/FD` prefixes and the 11 unprefixed holes
`D3 DB DD E3 E4 EB EC ED F4 FC FD`.  Nothing here is taken from the assembler's opcode literals.

Bytes are `Nat`s, operand values are `Int`s exactly as written in the source.
-/
set_option linter.constructorNameAsVariable false  -- operands are called `c`, `d`; so are `Cond.c`, `R8.d`

namespace Az65.Spec.Sm83
open Az65.Spec

/-! ### operand classes -/

/-- 8-bit operand table `r[z]` / `r[y]`: `b c d e h l (hl) a`. -/
inductive R8 where
  | b | c | d | e | h | l | hlInd | a
  deriving Repr, DecidableEq

/-- 16-bit register-pair table `rp[p]`: `bc de hl sp`. -/
inductive R16 where
  | bc | de | hl | sp
  deriving Repr, DecidableEq

/-- Register-pair table of `push`/`pop`, `rp2[p]`: `bc de hl af`. -/
inductive R16s where
  | bc | de | hl | af
  deriving Repr, DecidableEq

/-- Pointer operands of the accumulator loads `02/12/22/32` and `0A/1A/2A/3A`:
`(bc) (de) (hl+) (hl-)`. -/
inductive IndA where
  | bc | de | hlInc | hlDec
  deriving Repr, DecidableEq

/-- Condition table `cc[y]`: `nz z nc c`. -/
inductive Cond where
  | nz | z | nc | c
  deriving Repr, DecidableEq

/-- ALU table `alu[y]`: `add adc sub sbc and xor or cp`. -/
inductive Alu where
  | add | adc | sub | sbc | and | xor | or | cp
  deriving Repr, DecidableEq

/-- CB-prefixed rotate/shift table `rot[y]`: `rlc rrc rl rr sla sra swap srl`. -/
inductive Rot where
  | rlc | rrc | rl | rr | sla | sra | swap | srl
  deriving Repr, DecidableEq

/-- One SM83 instruction with its operands as written.  244 unprefixed + 256 CB opcodes. -/
inductive Instr where
  -- x = 0
  | nop                                  -- 00
  | ldNNSp (nn : Int)                    -- 08 lo hi     ld (nn),sp
  | stop                                 -- 10 00
  | jr (target : Int)                    -- 18 d
  | jrCc (c : Cond) (target : Int)       -- 20+8c d
  | ldRpNN (rp : R16) (nn : Int)         -- 01+16p lo hi
  | addHl (rp : R16)                     -- 09+16p
  | ldIndA (p : IndA)                    -- 02+16p       ld (bc)/(de)/(hl+)/(hl-),a
  | ldAInd (p : IndA)                    -- 0A+16p       ld a,(bc)/(de)/(hl+)/(hl-)
  | incRp (rp : R16)                     -- 03+16p
  | decRp (rp : R16)                     -- 0B+16p
  | inc (r : R8)                         -- 04+8y
  | dec (r : R8)                         -- 05+8y
  | ldRN (r : R8) (n : Int)              -- 06+8y n
  | rlca | rrca | rla | rra | daa | cpl | scf | ccf   -- 07+8y
  -- x = 1
  | halt                                 -- 76 00
  | ldRR (d s : R8)                      -- 40+8y+z      (not `(hl),(hl)`)
  -- x = 2
  | alu (op : Alu) (r : R8)              -- 80+8y+z
  -- x = 3
  | retCc (c : Cond)                     -- C0+8c
  | ldhNA (n : Int)                      -- E0 n         ldh (n),a
  | addSp (e : Int)                      -- E8 e
  | ldhAN (n : Int)                      -- F0 n         ldh a,(n)
  | ldHlSp (e : Int)                     -- F8 e         ld hl,sp+e
  | pop (q : R16s)                       -- C1+16p
  | ret                                  -- C9
  | reti                                 -- D9
  | jpHl                                 -- E9
  | ldSpHl                               -- F9
  | jpCc (c : Cond) (nn : Int)           -- C2+8c lo hi
  | ldCA                                 -- E2           ld (c),a
  | ldNNA (nn : Int)                     -- EA lo hi     ld (nn),a
  | ldAC                                 -- F2           ld a,(c)
  | ldANN (nn : Int)                     -- FA lo hi     ld a,(nn)
  | jp (nn : Int)                        -- C3 lo hi
  | di                                   -- F3
  | ei                                   -- FB
  | callCc (c : Cond) (nn : Int)         -- C4+8c lo hi
  | push (q : R16s)                      -- C5+16p
  | call (nn : Int)                      -- CD lo hi
  | aluN (op : Alu) (n : Int)            -- C6+8y n
  | rst (target : Int)                   -- C7+target
  -- CB prefix
  | rot (op : Rot) (r : R8)              -- CB 00+8y+z
  | bit (b : Int) (r : R8)               -- CB 40+8b+z
  | res (b : Int) (r : R8)               -- CB 80+8b+z
  | set (b : Int) (r : R8)               -- CB C0+8b+z
  deriving Repr, DecidableEq

/-! ### table indices -/

def R8.idx : R8 → Nat
  | .b => 0 | .c => 1 | .d => 2 | .e => 3 | .h => 4 | .l => 5 | .hlInd => 6 | .a => 7
def R8.ofIdx : Nat → R8
  | 0 => .b | 1 => .c | 2 => .d | 3 => .e | 4 => .h | 5 => .l | 6 => .hlInd | _ => .a

def R16.idx : R16 → Nat
  | .bc => 0 | .de => 1 | .hl => 2 | .sp => 3
def R16.ofIdx : Nat → R16
  | 0 => .bc | 1 => .de | 2 => .hl | _ => .sp

def R16s.idx : R16s → Nat
  | .bc => 0 | .de => 1 | .hl => 2 | .af => 3
def R16s.ofIdx : Nat → R16s
  | 0 => .bc | 1 => .de | 2 => .hl | _ => .af

def IndA.idx : IndA → Nat
  | .bc => 0 | .de => 1 | .hlInc => 2 | .hlDec => 3
def IndA.ofIdx : Nat → IndA
  | 0 => .bc | 1 => .de | 2 => .hlInc | _ => .hlDec

def Cond.idx : Cond → Nat
  | .nz => 0 | .z => 1 | .nc => 2 | .c => 3
def Cond.ofIdx : Nat → Cond
  | 0 => .nz | 1 => .z | 2 => .nc | _ => .c

def Alu.idx : Alu → Nat
  | .add => 0 | .adc => 1 | .sub => 2 | .sbc => 3 | .and => 4 | .xor => 5 | .or => 6 | .cp => 7
def Alu.ofIdx : Nat → Alu
  | 0 => .add | 1 => .adc | 2 => .sub | 3 => .sbc | 4 => .and | 5 => .xor | 6 => .or | _ => .cp

def Rot.idx : Rot → Nat
  | .rlc => 0 | .rrc => 1 | .rl => 2 | .rr => 3 | .sla => 4 | .sra => 5 | .swap => 6 | .srl => 7
def Rot.ofIdx : Nat → Rot
  | 0 => .rlc | 1 => .rrc | 2 => .rl | 3 => .rr | 4 => .sla | 5 => .sra | 6 => .swap | _ => .srl

/-! ### well-formedness -/

/-- `0 ≤ v ≤ 255`. -/
def isByte (v : Int) : Bool := decide (0 ≤ v) && decide (v ≤ 255)
/-- `0 ≤ v ≤ 65535`. -/
def isWord (v : Int) : Bool := decide (0 ≤ v) && decide (v ≤ 65535)
/-- High-page operand of `ldh`: an offset `0..$FF` or a full address `$FF00..$FFFF`. -/
def isHigh (v : Int) : Bool := isByte v || (decide (0xFF00 ≤ v) && decide (v ≤ 0xFFFF))
/-- Bit number `0..7`. -/
def isBit (v : Int) : Bool := decide (0 ≤ v) && decide (v ≤ 7)
/-- Restart vector: one of `0, 8, …, $38`. -/
def isRst (v : Int) : Bool := decide (0 ≤ v) && decide (v ≤ 0x38) && decide (v % 8 = 0)
/-- Relative-jump distance from the end of the 2-byte instruction at `pc` to `target`. -/
def jrDist (pc : Nat) (target : Int) : Int := target - ((pc : Int) + 2)
/-- `-128 ≤ target - (pc+2) ≤ 127`. -/
def isRel (pc : Nat) (target : Int) : Bool :=
  decide (-128 ≤ jrDist pc target) && decide (jrDist pc target ≤ 127)

/-- Is the instruction (located at `pc`) encodable: every operand in range, and it is an
instruction at all (`ld (hl),(hl)` is not: its slot `76` is `halt`). -/
def wf (pc : Nat) : Instr → Bool
  | .ldNNSp nn | .ldRpNN _ nn | .jpCc _ nn | .ldNNA nn | .ldANN nn | .jp nn | .callCc _ nn
  | .call nn => isWord nn
  | .jr t | .jrCc _ t => isRel pc t
  | .ldRN _ n | .aluN _ n => isByte n
  | .addSp e | .ldHlSp e => isByte e
  | .ldhNA n | .ldhAN n => isHigh n
  | .rst t => isRst t
  | .bit b _ | .res b _ | .set b _ => isBit b
  | .ldRR d s => !(d == .hlInd && s == .hlInd)
  | .nop | .stop | .addHl _ | .ldIndA _ | .ldAInd _ | .incRp _ | .decRp _ | .inc _ | .dec _
  | .rlca | .rrca | .rla | .rra | .daa | .cpl | .scf | .ccf | .halt | .alu _ _ | .retCc _
  | .pop _ | .ret | .reti | .jpHl | .ldSpHl | .ldCA | .ldAC | .di | .ei | .push _
  | .rot _ _ => true

/-- Encoding-level normal form: the `ldh` operand reduced to its low byte (`$FF10` ↦ `$10`);
every other instruction is its own normal form. -/
def norm : Instr → Instr
  | .ldhNA n => .ldhNA (n % 256)
  | .ldhAN n => .ldhAN (n % 256)
  | i => i

/-! ### encoder -/

/-- An 8-bit field holding `v` (`0 ≤ v ≤ 255` by `wf`). -/
def byteOf (v : Int) : Nat := v.toNat
/-- Low / high byte of a 16-bit field (little-endian in the instruction stream). -/
def loOf (v : Int) : Nat := v.toNat % 256
def hiOf (v : Int) : Nat := v.toNat / 256
/-- Two's-complement byte of the relative distance. -/
def relOf (pc : Nat) (target : Int) : Nat := (jrDist pc target % 256).toNat

def enc (pc : Nat) : Instr → List Nat
  | .nop => [0x00]
  | .ldNNSp nn => [0x08, loOf nn, hiOf nn]
  | .stop => [0x10, 0x00]
  | .jr t => [0x18, relOf pc t]
  | .jrCc c t => [0x20 + 8 * c.idx, relOf pc t]
  | .ldRpNN rp nn => [0x01 + 16 * rp.idx, loOf nn, hiOf nn]
  | .addHl rp => [0x09 + 16 * rp.idx]
  | .ldIndA p => [0x02 + 16 * p.idx]
  | .ldAInd p => [0x0A + 16 * p.idx]
  | .incRp rp => [0x03 + 16 * rp.idx]
  | .decRp rp => [0x0B + 16 * rp.idx]
  | .inc r => [0x04 + 8 * r.idx]
  | .dec r => [0x05 + 8 * r.idx]
  | .ldRN r n => [0x06 + 8 * r.idx, byteOf n]
  | .rlca => [0x07] | .rrca => [0x0F] | .rla => [0x17] | .rra => [0x1F]
  | .daa => [0x27] | .cpl => [0x2F] | .scf => [0x37] | .ccf => [0x3F]
  | .halt => [0x76, 0x00]
  | .ldRR d s => [0x40 + 8 * d.idx + s.idx]
  | .alu op r => [0x80 + 8 * op.idx + r.idx]
  | .retCc c => [0xC0 + 8 * c.idx]
  | .ldhNA n => [0xE0, byteOf n % 256]
  | .addSp e => [0xE8, byteOf e]
  | .ldhAN n => [0xF0, byteOf n % 256]
  | .ldHlSp e => [0xF8, byteOf e]
  | .pop q => [0xC1 + 16 * q.idx]
  | .ret => [0xC9] | .reti => [0xD9] | .jpHl => [0xE9] | .ldSpHl => [0xF9]
  | .jpCc c nn => [0xC2 + 8 * c.idx, loOf nn, hiOf nn]
  | .ldCA => [0xE2]
  | .ldNNA nn => [0xEA, loOf nn, hiOf nn]
  | .ldAC => [0xF2]
  | .ldANN nn => [0xFA, loOf nn, hiOf nn]
  | .jp nn => [0xC3, loOf nn, hiOf nn]
  | .di => [0xF3] | .ei => [0xFB]
  | .callCc c nn => [0xC4 + 8 * c.idx, loOf nn, hiOf nn]
  | .push q => [0xC5 + 16 * q.idx]
  | .call nn => [0xCD, loOf nn, hiOf nn]
  | .aluN op n => [0xC6 + 8 * op.idx, byteOf n]
  | .rst t => [0xC7 + byteOf t]
  | .rot op r => [0xCB, 8 * op.idx + r.idx]
  | .bit b r => [0xCB, 0x40 + 8 * byteOf b + r.idx]
  | .res b r => [0xCB, 0x80 + 8 * byteOf b + r.idx]
  | .set b r => [0xCB, 0xC0 + 8 * byteOf b + r.idx]

/-! ### decoder -/

/-- Fetch an 8-bit field. -/
def getByte : List Nat → Option (Int × List Nat)
  | b :: rest => if b < 256 then some ((b : Int), rest) else none
  | [] => none

/-- Fetch a little-endian 16-bit field. -/
def getWord : List Nat → Option (Int × List Nat)
  | l :: h :: rest => if l < 256 ∧ h < 256 then some (((l + 256 * h : Nat) : Int), rest) else none
  | _ => none

/-- Fetch a relative distance and turn it into the absolute target of the 2-byte instruction
at `pc`. -/
def getRel (pc : Nat) : List Nat → Option (Int × List Nat)
  | b :: rest =>
    if b < 256 then some ((pc : Int) + 2 + (if b < 128 then (b : Int) else (b : Int) - 256), rest)
    else none
  | [] => none

/-- Fetch the mandatory `00` that this dialect puts after `halt` and `stop`. -/
def getPad : List Nat → Option (List Nat)
  | 0 :: rest => some rest
  | _ => none

def withByte (f : Int → Instr) (rest : List Nat) : Option (Instr × List Nat) :=
  (getByte rest).map fun (n, r) => (f n, r)
def withWord (f : Int → Instr) (rest : List Nat) : Option (Instr × List Nat) :=
  (getWord rest).map fun (n, r) => (f n, r)
def withRel (pc : Nat) (f : Int → Instr) (rest : List Nat) : Option (Instr × List Nat) :=
  (getRel pc rest).map fun (n, r) => (f n, r)
def withPad (i : Instr) (rest : List Nat) : Option (Instr × List Nat) :=
  (getPad rest).map fun r => (i, r)

/-- Quadrant `x = 0`. -/
def decodeX0 (pc y z : Nat) (rest : List Nat) : Option (Instr × List Nat) :=
  let p := y / 2
  let q := y % 2
  match z with
  | 0 =>
    match y with
    | 0 => some (.nop, rest)
    | 1 => withWord .ldNNSp rest
    | 2 => withPad .stop rest
    | 3 => withRel pc .jr rest
    | _ => withRel pc (.jrCc (Cond.ofIdx (y - 4))) rest
  | 1 => if q = 0 then withWord (.ldRpNN (R16.ofIdx p)) rest else some (.addHl (R16.ofIdx p), rest)
  | 2 => if q = 0 then some (.ldIndA (IndA.ofIdx p), rest) else some (.ldAInd (IndA.ofIdx p), rest)
  | 3 => if q = 0 then some (.incRp (R16.ofIdx p), rest) else some (.decRp (R16.ofIdx p), rest)
  | 4 => some (.inc (R8.ofIdx y), rest)
  | 5 => some (.dec (R8.ofIdx y), rest)
  | 6 => withByte (.ldRN (R8.ofIdx y)) rest
  | _ =>
    match y with
    | 0 => some (.rlca, rest) | 1 => some (.rrca, rest) | 2 => some (.rla, rest)
    | 3 => some (.rra, rest) | 4 => some (.daa, rest) | 5 => some (.cpl, rest)
    | 6 => some (.scf, rest) | _ => some (.ccf, rest)

/-- Quadrant `x = 3`. -/
def decodeX3 (y z : Nat) (rest : List Nat) : Option (Instr × List Nat) :=
  let p := y / 2
  let q := y % 2
  match z with
  | 0 =>
    match y with
    | 4 => withByte .ldhNA rest
    | 5 => withByte .addSp rest
    | 6 => withByte .ldhAN rest
    | 7 => withByte .ldHlSp rest
    | _ => some (.retCc (Cond.ofIdx y), rest)
  | 1 =>
    if q = 0 then some (.pop (R16s.ofIdx p), rest)
    else match p with
      | 0 => some (.ret, rest) | 1 => some (.reti, rest) | 2 => some (.jpHl, rest)
      | _ => some (.ldSpHl, rest)
  | 2 =>
    match y with
    | 4 => some (.ldCA, rest)
    | 5 => withWord .ldNNA rest
    | 6 => some (.ldAC, rest)
    | 7 => withWord .ldANN rest
    | _ => withWord (.jpCc (Cond.ofIdx y)) rest
  | 3 =>
    match y with
    | 0 => withWord .jp rest
    | 6 => some (.di, rest)
    | 7 => some (.ei, rest)
    | _ => none                              -- CB is a prefix; D3 DB E3 EB are holes
  | 4 => if y < 4 then withWord (.callCc (Cond.ofIdx y)) rest else none   -- E4 EC F4 FC holes
  | 5 =>
    if q = 0 then some (.push (R16s.ofIdx p), rest)
    else if p = 0 then withWord .call rest else none                      -- DD ED FD holes
  | 6 => withByte (.aluN (Alu.ofIdx y)) rest
  | _ => some (.rst ((8 * y : Nat) : Int), rest)

/-- Unprefixed opcode `op` followed by `rest`. -/
def decodeUn (pc op : Nat) (rest : List Nat) : Option (Instr × List Nat) :=
  let y := op / 8 % 8
  let z := op % 8
  match op / 64 with
  | 0 => decodeX0 pc y z rest
  | 1 => if y = 6 ∧ z = 6 then withPad .halt rest else some (.ldRR (R8.ofIdx y) (R8.ofIdx z), rest)
  | 2 => some (.alu (Alu.ofIdx y) (R8.ofIdx z), rest)
  | 3 => decodeX3 y z rest
  | _ => none

/-- Second byte `op` of a CB-prefixed instruction. -/
def decodeCB (op : Nat) (rest : List Nat) : Option (Instr × List Nat) :=
  let y := op / 8 % 8
  let r := R8.ofIdx (op % 8)
  match op / 64 with
  | 0 => some (.rot (Rot.ofIdx y) r, rest)
  | 1 => some (.bit (y : Int) r, rest)
  | 2 => some (.res (y : Int) r, rest)
  | 3 => some (.set (y : Int) r, rest)
  | _ => none

/-- Decode one instruction located at `pc` from the front of a byte list. -/
def decode (pc : Nat) : List Nat → Option (Instr × List Nat)
  | [] => none
  | op :: rest =>
    if op = 0xCB then
      match rest with
      | op2 :: rest2 => decodeCB op2 rest2
      | [] => none
    else decodeUn pc op rest

/-! ### source syntax -/

/-- Mnemonics of this assembler's SM83 dialect. -/
inductive Mn where
  | nop | ld | inc | dec | rlca | add | sub | rrca | stop | rla | jr | jp | rra | daa | cpl | scf
  | ccf | adc | sbc | and | xor | or | cp | ret | pop | call | push | rst | reti | ldh | di | ei
  | rlc | rrc | rl | rr | sla | sra | swap | srl | bit | res | set | halt
  deriving Repr, DecidableEq

def Mn.name : Mn → String
  | .nop => "nop" | .ld => "ld" | .inc => "inc" | .dec => "dec" | .rlca => "rlca" | .add => "add"
  | .sub => "sub" | .rrca => "rrca" | .stop => "stop" | .rla => "rla" | .jr => "jr" | .jp => "jp"
  | .rra => "rra" | .daa => "daa" | .cpl => "cpl" | .scf => "scf" | .ccf => "ccf" | .adc => "adc"
  | .sbc => "sbc" | .and => "and" | .xor => "xor" | .or => "or" | .cp => "cp" | .ret => "ret"
  | .pop => "pop" | .call => "call" | .push => "push" | .rst => "rst" | .reti => "reti"
  | .ldh => "ldh" | .di => "di" | .ei => "ei" | .rlc => "rlc" | .rrc => "rrc" | .rl => "rl"
  | .rr => "rr" | .sla => "sla" | .sra => "sra" | .swap => "swap" | .srl => "srl" | .bit => "bit"
  | .res => "res" | .set => "set" | .halt => "halt"

def Mn.all : List Mn :=
  [.nop, .ld, .inc, .dec, .rlca, .add, .sub, .rrca, .stop, .rla, .jr, .jp, .rra, .daa, .cpl, .scf,
   .ccf, .adc, .sbc, .and, .xor, .or, .cp, .ret, .pop, .call, .push, .rst, .reti, .ldh, .di, .ei,
   .rlc, .rrc, .rl, .rr, .sla, .sra, .swap, .srl, .bit, .res, .set, .halt]

/-- Mnemonic of a (lower-case) source spelling. -/
def Mn.ofName (s : String) : Option Mn := Mn.all.find? fun m => m.name == s

def R8.opnd : R8 → Opnd
  | .b => .reg "b" | .c => .reg "c" | .d => .reg "d" | .e => .reg "e" | .h => .reg "h"
  | .l => .reg "l" | .hlInd => .ind "hl" | .a => .reg "a"
def R8.all : List R8 := [.b, .c, .d, .e, .h, .l, .hlInd, .a]
def R8.ofOpnd (o : Opnd) : Option R8 := R8.all.find? fun r => r.opnd == o

def R16.opnd : R16 → Opnd
  | .bc => .reg "bc" | .de => .reg "de" | .hl => .reg "hl" | .sp => .reg "sp"
def R16.all : List R16 := [.bc, .de, .hl, .sp]
def R16.ofOpnd (o : Opnd) : Option R16 := R16.all.find? fun r => r.opnd == o

def R16s.opnd : R16s → Opnd
  | .bc => .reg "bc" | .de => .reg "de" | .hl => .reg "hl" | .af => .reg "af"
def R16s.all : List R16s := [.bc, .de, .hl, .af]
def R16s.ofOpnd (o : Opnd) : Option R16s := R16s.all.find? fun r => r.opnd == o

def IndA.opnd : IndA → Opnd
  | .bc => .ind "bc" | .de => .ind "de" | .hlInc => .indInc "hl" | .hlDec => .indDec "hl"
def IndA.all : List IndA := [.bc, .de, .hlInc, .hlDec]
def IndA.ofOpnd (o : Opnd) : Option IndA := IndA.all.find? fun r => r.opnd == o

/-- Conditions; the carry condition is written with the register token `c`. -/
def Cond.opnd : Cond → Opnd
  | .nz => .flag "nz" | .z => .flag "z" | .nc => .flag "nc" | .c => .reg "c"
def Cond.all : List Cond := [.nz, .z, .nc, .c]
def Cond.ofOpnd (o : Opnd) : Option Cond := Cond.all.find? fun r => r.opnd == o

def Alu.mn : Alu → Mn
  | .add => .add | .adc => .adc | .sub => .sub | .sbc => .sbc | .and => .and | .xor => .xor
  | .or => .or | .cp => .cp
/-- `add`, `adc`, `sbc` are written with the explicit accumulator operand (`add a, b`); `sub`,
`and`, `xor`, `or`, `cp` are written without it (`sub b`). -/
def Alu.hasA : Alu → Bool
  | .add | .adc | .sbc => true
  | _ => false

def Rot.mn : Rot → Mn
  | .rlc => .rlc | .rrc => .rrc | .rl => .rl | .rr => .rr | .sla => .sla | .sra => .sra
  | .swap => .swap | .srl => .srl

/-- The source operand of an 8-bit ALU operation: a register / `(hl)`, an immediate `E`, or
(dialect) the parenthesised immediate `(E)`. -/
def readAlu (op : Alu) (o : Opnd) : Option Instr :=
  match R8.ofOpnd o with
  | some r => some (.alu op r)
  | none =>
    match o with
    | .imm n => some (.aluN op n)
    | .mem n => some (.aluN op n)
    | _ => none

/-- `ld a, s`. -/
def readLdA (s : Opnd) : Option Instr :=
  match R8.ofOpnd s with
  | some r => some (.ldRR .a r)
  | none =>
    match IndA.ofOpnd s with
    | some p => some (.ldAInd p)
    | none =>
      match s with
      | .ind "c" => some .ldAC
      | .mem nn => some (.ldANN nn)
      | .imm n => some (.ldRN .a n)
      | _ => none

/-- `ld r, s` for an 8-bit destination `r` other than `a` (`b c d e h l (hl)`). -/
def readLdR (r : R8) (s : Opnd) : Option Instr :=
  match R8.ofOpnd s with
  | some r' => if r = .hlInd ∧ r' = .hlInd then none else some (.ldRR r r')
  | none =>
    match s with
    | .imm n => some (.ldRN r n)
    | .mem n => some (.ldRN r n)      -- dialect: `ld b, (E)` is `ld b, E`
    | _ => none

/-- `ld d, s` where `d` is neither an 8-bit operand nor `(bc) (de) (hl+) (hl-)`. -/
def readLdOther : Opnd → Opnd → Option Instr
  | .ind "c", .reg "a" => some .ldCA
  | .mem nn, .reg "a" => some (.ldNNA nn)
  | .mem nn, .reg "sp" => some (.ldNNSp nn)
  | .reg "sp", .reg "hl" => some .ldSpHl
  | .reg "hl", .regPlus "sp" e => some (.ldHlSp e)
  | d, .imm nn => (R16.ofOpnd d).map fun rp => .ldRpNN rp nn
  | _, _ => none

/-- `ld d, s`. -/
def readLd (d s : Opnd) : Option Instr :=
  match R8.ofOpnd d with
  | some .a => readLdA s
  | some r => readLdR r s
  | none =>
    match IndA.ofOpnd d with
    | some p => if s = .reg "a" then some (.ldIndA p) else none
    | none => readLdOther d s

/-- A bit number followed by an 8-bit operand. -/
def readBit (f : Int → R8 → Instr) : List Opnd → Option Instr
  | [.imm b, o] => (R8.ofOpnd o).map (f b)
  | _ => none

/-- Operation with one 8-bit operand. -/
def readR8 (f : R8 → Instr) : List Opnd → Option Instr
  | [o] => (R8.ofOpnd o).map f
  | _ => none

def readNone (i : Instr) : List Opnd → Option Instr
  | [] => some i
  | _ => none

/-- ALU mnemonic written with / without the accumulator operand. -/
def readAluOps (op : Alu) : List Opnd → Option Instr
  | [o] => if op.hasA then none else readAlu op o
  | [.reg "a", o] => if op.hasA then readAlu op o else none
  | _ => none

def readMn : Mn → List Opnd → Option Instr
  | .nop, ops => readNone .nop ops
  | .stop, ops => readNone .stop ops
  | .halt, ops => readNone .halt ops
  | .di, ops => readNone .di ops
  | .ei, ops => readNone .ei ops
  | .reti, ops => readNone .reti ops
  | .rlca, ops => readNone .rlca ops
  | .rrca, ops => readNone .rrca ops
  | .rla, ops => readNone .rla ops
  | .rra, ops => readNone .rra ops
  | .daa, ops => readNone .daa ops
  | .cpl, ops => readNone .cpl ops
  | .scf, ops => readNone .scf ops
  | .ccf, ops => readNone .ccf ops
  | .ld, ops =>
    match ops with
    | [d, s] => readLd d s
    | _ => none
  | .ldh, ops =>
    match ops with
    | [.mem n, .reg "a"] => some (.ldhNA n)
    | [.reg "a", .mem n] => some (.ldhAN n)
    | _ => none
  | .inc, ops =>
    match ops with
    | [o] =>
      match R8.ofOpnd o with
      | some r => some (.inc r)
      | none => (R16.ofOpnd o).map .incRp
    | _ => none
  | .dec, ops =>
    match ops with
    | [o] =>
      match R8.ofOpnd o with
      | some r => some (.dec r)
      | none => (R16.ofOpnd o).map .decRp
    | _ => none
  | .add, ops =>
    match ops with
    | [.reg "hl", o] => (R16.ofOpnd o).map .addHl
    | [.reg "sp", .imm e] => some (.addSp e)
    | ops => readAluOps .add ops
  | .adc, ops => readAluOps .adc ops
  | .sub, ops => readAluOps .sub ops
  | .sbc, ops => readAluOps .sbc ops
  | .and, ops => readAluOps .and ops
  | .xor, ops => readAluOps .xor ops
  | .or, ops => readAluOps .or ops
  | .cp, ops => readAluOps .cp ops
  | .jr, ops =>
    match ops with
    | [.imm t] => some (.jr t)
    | [c, .imm t] => (Cond.ofOpnd c).map fun c => .jrCc c t
    | _ => none
  | .jp, ops =>
    match ops with
    | [.reg "hl"] => some .jpHl
    | [.imm nn] => some (.jp nn)
    | [c, .imm nn] => (Cond.ofOpnd c).map fun c => .jpCc c nn
    | _ => none
  | .call, ops =>
    match ops with
    | [.imm nn] => some (.call nn)
    | [c, .imm nn] => (Cond.ofOpnd c).map fun c => .callCc c nn
    | _ => none
  | .ret, ops =>
    match ops with
    | [] => some .ret
    | [c] => (Cond.ofOpnd c).map .retCc
    | _ => none
  | .push, ops =>
    match ops with
    | [o] => (R16s.ofOpnd o).map .push
    | _ => none
  | .pop, ops =>
    match ops with
    | [o] => (R16s.ofOpnd o).map .pop
    | _ => none
  | .rst, ops =>
    match ops with
    | [.imm t] => some (.rst t)
    | _ => none
  | .rlc, ops => readR8 (.rot .rlc) ops
  | .rrc, ops => readR8 (.rot .rrc) ops
  | .rl, ops => readR8 (.rot .rl) ops
  | .rr, ops => readR8 (.rot .rr) ops
  | .sla, ops => readR8 (.rot .sla) ops
  | .sra, ops => readR8 (.rot .sra) ops
  | .swap, ops => readR8 (.rot .swap) ops
  | .srl, ops => readR8 (.rot .srl) ops
  | .bit, ops => readBit .bit ops
  | .res, ops => readBit .res ops
  | .set, ops => readBit .set ops

/-- The instruction denoted by mnemonic `m` (lower case) with operands `ops`, if any. -/
def read (m : String) (ops : List Opnd) : Option Instr :=
  (Mn.ofName m).bind fun mn => readMn mn ops

/-- Canonical source spelling of an instruction. -/
def writeMn : Instr → Mn × List Opnd
  | .nop => (.nop, [])
  | .ldNNSp nn => (.ld, [.mem nn, .reg "sp"])
  | .stop => (.stop, [])
  | .jr t => (.jr, [.imm t])
  | .jrCc c t => (.jr, [c.opnd, .imm t])
  | .ldRpNN rp nn => (.ld, [rp.opnd, .imm nn])
  | .addHl rp => (.add, [.reg "hl", rp.opnd])
  | .ldIndA p => (.ld, [p.opnd, .reg "a"])
  | .ldAInd p => (.ld, [.reg "a", p.opnd])
  | .incRp rp => (.inc, [rp.opnd])
  | .decRp rp => (.dec, [rp.opnd])
  | .inc r => (.inc, [r.opnd])
  | .dec r => (.dec, [r.opnd])
  | .ldRN r n => (.ld, [r.opnd, .imm n])
  | .rlca => (.rlca, []) | .rrca => (.rrca, []) | .rla => (.rla, []) | .rra => (.rra, [])
  | .daa => (.daa, []) | .cpl => (.cpl, []) | .scf => (.scf, []) | .ccf => (.ccf, [])
  | .halt => (.halt, [])
  | .ldRR d s => (.ld, [d.opnd, s.opnd])
  | .alu op r => (op.mn, if op.hasA then [.reg "a", r.opnd] else [r.opnd])
  | .retCc c => (.ret, [c.opnd])
  | .ldhNA n => (.ldh, [.mem n, .reg "a"])
  | .addSp e => (.add, [.reg "sp", .imm e])
  | .ldhAN n => (.ldh, [.reg "a", .mem n])
  | .ldHlSp e => (.ld, [.reg "hl", .regPlus "sp" e])
  | .pop q => (.pop, [q.opnd])
  | .ret => (.ret, []) | .reti => (.reti, []) | .jpHl => (.jp, [.reg "hl"])
  | .ldSpHl => (.ld, [.reg "sp", .reg "hl"])
  | .jpCc c nn => (.jp, [c.opnd, .imm nn])
  | .ldCA => (.ld, [.ind "c", .reg "a"])
  | .ldNNA nn => (.ld, [.mem nn, .reg "a"])
  | .ldAC => (.ld, [.reg "a", .ind "c"])
  | .ldANN nn => (.ld, [.reg "a", .mem nn])
  | .jp nn => (.jp, [.imm nn])
  | .di => (.di, []) | .ei => (.ei, [])
  | .callCc c nn => (.call, [c.opnd, .imm nn])
  | .push q => (.push, [q.opnd])
  | .call nn => (.call, [.imm nn])
  | .aluN op n => (op.mn, if op.hasA then [.reg "a", .imm n] else [.imm n])
  | .rst t => (.rst, [.imm t])
  | .rot op r => (op.mn, [r.opnd])
  | .bit b r => (.bit, [.imm b, r.opnd])
  | .res b r => (.res, [.imm b, r.opnd])
  | .set b r => (.set, [.imm b, r.opnd])

def write (i : Instr) : String × List Opnd := ((writeMn i).1.name, (writeMn i).2)

/-- The bytes the assembler must emit for mnemonic `m` with operands `ops` at address `pc`;
`none`: the line must be rejected. -/
def expected (pc : Nat) (m : String) (ops : List Opnd) : Option (List Nat) :=
  (read m ops).bind fun i => if wf pc i then some (enc pc i) else none

/-! ### the 500 opcodes -/

def Alu.all : List Alu := [.add, .adc, .sub, .sbc, .and, .xor, .or, .cp]
def Rot.all : List Rot := [.rlc, .rrc, .rl, .rr, .sla, .sra, .swap, .srl]

/-- One well-formed instruction per defined opcode (operand values: `$42`, `$1234`, target `$10`
for `jr` at `pc = 0`). -/
def allOpcodes : List Instr :=
  [.nop, .ldNNSp 0x1234, .stop, .jr 0x10] ++ Cond.all.map (.jrCc · 0x10)
  ++ R16.all.map (.ldRpNN · 0x1234) ++ R16.all.map .addHl
  ++ IndA.all.map .ldIndA ++ IndA.all.map .ldAInd
  ++ R16.all.map .incRp ++ R16.all.map .decRp
  ++ R8.all.map .inc ++ R8.all.map .dec ++ R8.all.map (.ldRN · 0x42)
  ++ [.rlca, .rrca, .rla, .rra, .daa, .cpl, .scf, .ccf, .halt]
  ++ (R8.all.flatMap fun d => R8.all.map fun s => Instr.ldRR d s).filter (wf 0)
  ++ (Alu.all.flatMap fun op => R8.all.map fun r => Instr.alu op r)
  ++ Cond.all.map .retCc ++ [.ldhNA 0x42, .addSp 0x42, .ldhAN 0x42, .ldHlSp 0x42]
  ++ R16s.all.map .pop ++ [.ret, .reti, .jpHl, .ldSpHl]
  ++ Cond.all.map (.jpCc · 0x1234) ++ [.ldCA, .ldNNA 0x1234, .ldAC, .ldANN 0x1234]
  ++ [.jp 0x1234, .di, .ei] ++ Cond.all.map (.callCc · 0x1234)
  ++ R16s.all.map .push ++ [.call 0x1234] ++ Alu.all.map (.aluN · 0x42)
  ++ (List.range 8).map (fun y => Instr.rst (8 * y : Nat))
  ++ (Rot.all.flatMap fun op => R8.all.map fun r => Instr.rot op r)
  ++ ((List.range 8).flatMap fun b => R8.all.map fun r => Instr.bit (b : Nat) r)
  ++ ((List.range 8).flatMap fun b => R8.all.map fun r => Instr.res (b : Nat) r)
  ++ ((List.range 8).flatMap fun b => R8.all.map fun r => Instr.set (b : Nat) r)

/-- The 11 undefined unprefixed opcodes. -/
def holes : List Nat := [0xD3, 0xDB, 0xDD, 0xE3, 0xE4, 0xEB, 0xEC, 0xED, 0xF4, 0xFC, 0xFD]

/-- Opcode key of an encoding: the first byte, or `256 + second byte` behind the CB prefix. -/
def opKey : List Nat → Nat
  | 0xCB :: b :: _ => 256 + b
  | b :: _ => b
  | [] => 0

/-- The 500 defined opcode keys: `0..255` minus CB and the holes, and `256..511`. -/
def definedKeys : List Nat :=
  (List.range 512).filter fun k => k != 0xCB && !holes.contains k

/-- Opcode keys of `allOpcodes`, in list order. -/
def allKeys : List Nat := allOpcodes.map fun i => opKey (enc 0 i)

/-- Bit set of a key list, `none` if some key occurs twice (a linear-time distinctness check:
by `keyMask_spec`, `keyMask ks = some m` only if `ks` is duplicate-free and `m` has exactly the
bits `ks`). -/
def keyMask : List Nat → Option Nat
  | [] => some 0
  | k :: ks => (keyMask ks).bind fun m => if m.testBit k then none else some (m ||| 1 <<< k)

theorem keyMask_spec : ∀ {ks : List Nat} {m : Nat}, keyMask ks = some m →
    ks.Nodup ∧ ∀ k, m.testBit k = true ↔ k ∈ ks
  | [], _, h => by cases h; simp
  | k :: ks, _, h => by
    obtain ⟨m, hm, h⟩ := Option.bind_eq_some_iff.1 h
    obtain ⟨hn, hmem⟩ := keyMask_spec hm
    obtain ⟨hb, ⟨⟩⟩ := Option.ite_none_left_eq_some.1 h
    refine ⟨List.nodup_cons.2 ⟨fun hin => hb ((hmem k).2 hin), hn⟩, fun j => ?_⟩
    simp only [Nat.testBit_or, Nat.one_shiftLeft, Nat.testBit_two_pow, Bool.or_eq_true, hmem,
      decide_eq_true_eq, List.mem_cons]
    rw [or_comm, eq_comm]

theorem nodup_of_keyMask {ks : List Nat} (h : (keyMask ks).isSome = true) : ks.Nodup :=
  let ⟨_, hm⟩ := Option.isSome_iff_exists.1 h
  (keyMask_spec hm).1

/-- One evaluation of the table for the four theorems below. -/
private theorem allOpcodes_table :
    allOpcodes.length = 500 ∧ definedKeys.length = 500 ∧ allOpcodes.all (wf 0) = true ∧
      (keyMask allKeys).isSome = true ∧ keyMask allKeys = keyMask definedKeys := by
  decide +kernel

theorem allOpcodes_count : allOpcodes.length = 500 := allOpcodes_table.1

theorem definedKeys_count : definedKeys.length = 500 := allOpcodes_table.2.1

theorem allOpcodes_wf : allOpcodes.all (wf 0) = true := allOpcodes_table.2.2.1

/-- The opcodes of `allOpcodes` are pairwise distinct (the mask exists) and they are exactly the
500 defined opcodes (same bit set): all are reached, none is a hole or the bare CB prefix. -/
theorem allOpcodes_keys :
    (keyMask allKeys).isSome = true ∧ keyMask allKeys = keyMask definedKeys :=
  allOpcodes_table.2.2.2

end Az65.Spec.Sm83
