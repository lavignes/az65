/-
Spec for C17: UTF-8 (RFC 3629) decoding of a byte string, independent of `charreader.rs`.
Bytes and code points are `Nat`.
-/
namespace Az65.Spec.Utf8

inductive First where
  /-- a complete scalar value `cp` encoded in the first `len` bytes -/
  | ok (cp : Nat) (len : Nat)
  /-- the bytes are a proper prefix of a well-formed sequence (more input needed) -/
  | incomplete
  /-- no well-formed sequence starts here -/
  | invalid
  /-- no bytes -/
  | empty
  deriving Repr, DecidableEq

def isCont (b : Nat) : Bool := 0x80 ≤ b && b ≤ 0xBF

/-- Length of the sequence announced by a lead byte (RFC 3629 §4; the Unicode Standard's table 3-7); 0 = not a lead byte
(continuation bytes, the overlong leads C0 C1, and F5..FF). -/
def seqLen (b0 : Nat) : Nat :=
  if b0 < 0x80 then 1
  else if 0xC2 ≤ b0 ∧ b0 ≤ 0xDF then 2
  else if 0xE0 ≤ b0 ∧ b0 ≤ 0xEF then 3
  else if 0xF0 ≤ b0 ∧ b0 ≤ 0xF4 then 4
  else 0

/-- Is `b` acceptable as the `i`-th byte (1 = the byte after the lead) of a sequence led by `b0`?
The second byte is restricted after E0 (no overlongs), ED (no surrogates), F0 (no overlongs) and
F4 (nothing above U+10FFFF). -/
def stepOk (b0 i b : Nat) : Bool :=
  if i = 1 then
    (if b0 = 0xE0 then 0xA0 else if b0 = 0xF0 then 0x90 else 0x80) ≤ b &&
      b ≤ (if b0 = 0xED then 0x9F else if b0 = 0xF4 then 0x8F else 0xBF)
  else isCont b

inductive Scan where
  | done | short | bad
  deriving Repr, DecidableEq

/-- Check `k` further bytes of a sequence, starting with byte number `i`. -/
def scan (b0 : Nat) : Nat → Nat → List Nat → Scan
  | 0, _, _ => .done
  | _ + 1, _, [] => .short
  | k + 1, i, b :: r => if stepOk b0 i b then scan b0 k (i + 1) r else .bad

/-- Payload bits of a complete sequence. -/
def cpOf (bs : List Nat) : Nat :=
  match bs with
  | [b0] => b0
  | [b0, b1] => (b0 - 0xC0) * 64 + (b1 - 0x80)
  | [b0, b1, b2] => (b0 - 0xE0) * 4096 + (b1 - 0x80) * 64 + (b2 - 0x80)
  | [b0, b1, b2, b3] => (b0 - 0xF0) * 262144 + (b1 - 0x80) * 4096 + (b2 - 0x80) * 64 + (b3 - 0x80)
  | _ => 0

/-- Decode the first character of a byte string. -/
def decodeFirst : List Nat → First
  | [] => .empty
  | b0 :: r =>
    if seqLen b0 = 0 then .invalid else
    match scan b0 (seqLen b0 - 1) 1 r with
    | .done => .ok (cpOf ((b0 :: r).take (seqLen b0))) (seqLen b0)
    | .short => .incomplete
    | .bad => .invalid

/-- How a decoding run ends. -/
inductive End where
  | eof                 -- all input consumed
  | utf8                -- not valid UTF-8 at the current position (incl. truncated at end of input)
  | io                  -- the underlying read failed
  deriving Repr, DecidableEq

/-- The characters of a byte string, up to the first offending position. `fuel` ≥ length suffices. -/
def decodeAll : Nat → List Nat → List Nat × End
  | 0, _ => ([], .utf8)
  | f + 1, bs =>
    match decodeFirst bs with
    | .empty => ([], .eof)
    | .ok cp len =>
      let (cs, e) := decodeAll f (bs.drop len)
      (cp :: cs, e)
    | .incomplete => ([], .utf8)
    | .invalid => ([], .utf8)

end Az65.Spec.Utf8
