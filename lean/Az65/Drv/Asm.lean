import Az65.Model.Stmt
import Az65.Model.Link
import Az65.Drv.Lex
/- Line-protocol driver for mode `asm`: whole assemble()+link() runs of the model. -/
namespace Az65.Drv
open Az65

def parseFiles (spec : String) : FileSys :=
  if spec = "-" then {} else
  ((spec.splitOn ";").filter (· ≠ "")).foldl (fun fs entry =>
    if entry.endsWith "/" then
      { fs with dirs := fs.dirs ++ [normPath entry] }
    else
      match entry.splitOn "=" with
      | [path, rest] =>
        let parts := rest.splitOn "@"
        let data := (unhex (parts.headD "")).getD []
        let failAt := (parts.tail.filterMap fun p =>
          if p.startsWith "f" then (p.drop 1).toString.toNat? else none).head?
        { fs with files := fs.files ++ [{ path := normPath path, data := data, failAt := failAt }] }
      | _ => fs) {}

def sortStrings (l : List String) : List String := l.mergeSort fun a b => a < b || a == b

def showSymbols (c : CoreSt) : String :=
  let entries := c.symtab.map fun (name, e) =>
    let v := match e.sym with
      | .val v => toString v.toInt
      | .expr body => match evaluate c.symtab body with
        | .ok v => toString v.toInt
        | _ => "?"
    let ms := sortStrings (e.metas.map fun kv => hexOfString kv.1 ++ ":" ++ hexOfString kv.2)
    hexOfString name ++ "=" ++ v ++ "=" ++ "+".intercalate ms
  ",".intercalate (sortStrings entries)

def showEKind : EKind → String
  | .eoi => "eoi" | .unexpected => "unexpected" | .range => "range" | .addrOverflow => "addr-overflow"
  | .needsNow => "needs-now" | .alreadyDefined => "already-defined" | .noScope => "no-scope"
  | .assertFail => "assert" | .die => "die" | .notFound => "not-found" | .fileOpen => "file-open"
  | .fileRead => "file-read" | .lex k => "lex-" ++ errClass k | .undefined => "undefined"
  | .unsolved => "unsolved" | .other s => "other:" ++ s | .crash s => "CRASH:" ++ s | .fuel => "FUEL"

def showLinks (c : CoreSt) : String :=
  let kindNo : LinkKind → Nat
    | .byte => 0 | .signedByte => 1 | .word => 2 | .space => 3 | .assert => 4
  ",".intercalate (c.links.map fun l => s!"{kindNo l.kind}:{l.offset}:{l.len}")

def runAsm (args : List String) : String :=
  match args with
  | archS :: cwd :: root :: sps :: files :: rest =>
    match Arch.ofString archS with
    | none => "BADARCH"
    | some a =>
      let fs := parseFiles files
      let searchPaths := if sps = "-" then [] else (sps.splitOn ";").filter (· ≠ "")
      let opts := (rest.headD "").splitOn ","
      match assemble a fs searchPaths cwd root 2000000 with
      | .error f => s!"ERR\t{showEKind f.err.kind}@{f.err.loc.file}:{f.err.loc.line}:{f.err.loc.col}"
      | .ok s =>
        let extra := if opts.contains "links" then s!"\tLINKS {showLinks s.core} PRE {hexBytes s.core.data}" else ""
        match link s.core with
        | .error e => s!"ERR\t{showEKind e.kind}@{e.loc.file}:{e.loc.line}:{e.loc.col}{extra}"
        | .ok bytes => s!"OK\t{hexBytes bytes}\t{showSymbols s.core}{extra}"
  | _ => "BADARGS"

end Az65.Drv
