import Az65.Model.Expr
import Az65.Model.Lexer
/-
Shared state and vocabulary of the assembler model (`src/assembler/mod.rs`, `src/linker.rs`):
the part of the `Assembler` struct that expression parsing and the instruction encoders touch
(`CoreSt`), deferred patches (`Link`), diagnostics (`Err`) and the abstract token supply
(`TokOps`) over which the expression ladder and the decision-tree interpreter are generic.
-/
namespace Az65

inductive LinkKind where
  | byte | signedByte | word | space | assert
  deriving Repr, DecidableEq, Inhabited

/-- A deferred patch (`linker::Link`). `len` is 1, 1, 2, the space length, 0. -/
structure Link where
  kind : LinkKind
  loc : Loc
  offset : Nat
  len : Nat
  expr : List Node
  msg : Option String := none
  deriving Repr, Inhabited

/-- Diagnostic classes (the wording of messages is not modelled). -/
inductive EKind where
  | eoi                    -- "Unexpected end of input"
  | unexpected             -- unexpected token / malformed statement
  | range                  -- value does not fit its field
  | addrOverflow           -- bytes extend past $ffff
  | needsNow               -- "must be immediately solvable"
  | alreadyDefined
  | noScope                -- local label without a global label
  | assertFail
  | die
  | notFound               -- file not found
  | fileOpen | fileRead
  | lex (k : LexErrKind)
  | undefined              -- link: undefined symbol
  | unsolved               -- link: expression could not be solved
  | other (s : String)
  | crash (site : String)  -- a Rust panic site; never a legal outcome
  | fuel                   -- model ran out of fuel (non-termination in the real code)
  deriving Repr, DecidableEq, Inhabited

structure Err where
  kind : EKind
  loc : Loc
  deriving Repr, Inhabited

/-- The part of `Assembler` that expressions and encoders read and write. -/
structure CoreSt where
  symtab : Env := []
  /-- `Symtab::hits`: first reference of each name, in order of first touch -/
  hits : List (String × Loc) := []
  /-- metadata in force (`@meta … @endmeta`), sorted canonical form is kept by the interner -/
  curMeta : List (String × String) := []
  /-- `data`, newest byte first -/
  dataRev : List Nat := []
  links : List Link := []
  here : Nat := 0
  ns : Option String := none
  deriving Repr, Inhabited

def CoreSt.data (c : CoreSt) : List Nat := c.dataRev.reverse
def CoreSt.dataLen (c : CoreSt) : Nat := c.dataRev.length
def CoreSt.push (c : CoreSt) (b : Nat) : CoreSt := { c with dataRev := b :: c.dataRev }
def CoreSt.pushAll (c : CoreSt) (bs : List Nat) : CoreSt := { c with dataRev := bs.reverse ++ c.dataRev }
def CoreSt.addLink (c : CoreSt) (l : Link) : CoreSt := { c with links := c.links ++ [l] }

/-- `Symtab::touch`: record the first reference only. -/
def CoreSt.touch (c : CoreSt) (n : String) (loc : Loc) : CoreSt :=
  if c.hits.any (·.1 == n) then c else { c with hits := c.hits ++ [(n, loc)] }

def Env.set (env : Env) (n : String) (e : Entry) : Env :=
  match env with
  | [] => [(n, e)]
  | (k, v) :: r => if k = n then (k, e) :: r else (k, v) :: Env.set r n e

def Env.remove (env : Env) (n : String) : Env := env.filter (·.1 ≠ n)

/-- `Symtab::insert`: the symbol carries the metadata in force. -/
def CoreSt.insert (c : CoreSt) (n : String) (s : Sym) : CoreSt :=
  { c with symtab := c.symtab.set n { sym := s, metas := c.curMeta } }

def CoreSt.insertWithMeta (c : CoreSt) (n : String) (s : Sym) (m : List (String × String)) : CoreSt :=
  { c with symtab := c.symtab.set n { sym := s, metas := m } }

/-- `Expr::evaluate(&symtab, …)` over the state's own symbol table. -/
def CoreSt.eval (c : CoreSt) (ns : List Node) : Res I32 := evaluate c.symtab ns

abbrev R (σ α : Type) := Except Err (α × σ)

/-- The token supply (`Assembler::peek` / `next`, i.e. the pump) and access to the core state. -/
structure TokOps (σ : Type) where
  peek : σ → R σ (Option LTok)
  next : σ → R σ (Option LTok)
  /-- `self.loc()` (location of the token source after the last `peek`) -/
  loc : σ → Loc
  getC : σ → CoreSt
  setC : σ → CoreSt → σ

/-- `name` of the active scope + local label → qualified name. -/
def qualify (ns : Option String) (k : LabelKind) (s : String) : Option String :=
  match k with
  | .global => some s
  | .direct => some s
  | .loc => ns.map fun g => g ++ s

def i32OfNat (n : Nat) : I32 := BitVec.ofNat 32 n

end Az65
