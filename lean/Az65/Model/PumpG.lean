import Az65.Model.ExprParse
/-
Token-level loops of the pre-processor written once, generically in the token supply, so that the
pump (`Model/Asm.lean`, `Model/Stmt.lean`) runs them over the full assembler state and the
theorems of C10 / C11 are stated over the plain token list (`Model/Plain.lean`).
-/
namespace Az65
variable {σ : Type}

inductive MTok where
  | tok (t : LTok)
  | arg (i : Nat)
  | entropy (loc : Loc)
  deriving Repr, Inhabited

/-- How `@macro` recording classifies a body token: `@entropy`, a parameter slot (a *global*
label equal to a parameter name; the first matching parameter), or the token itself. -/
def slotOf (params : List String) (t : LTok) : MTok :=
  match t with
  | ⟨.dir "Entropy", loc⟩ => .entropy loc
  | ⟨.label .global v, _⟩ =>
    match params.idxOf? v with
    | some i => .arg i
    | none => .tok t
  | _ => .tok t

/-- One macro argument (`expect_macro_invoke`): a single token, or the tokens inside one pair of
braces (nested braces kept); line breaks and comments are dropped. -/
def oneArgG (ops : TokOps σ) : Nat → Nat → List LTok → σ → R σ (List LTok)
  | 0, _, _, s => .error ⟨.fuel, ops.loc s⟩
  | f + 1, depth, toks, s =>
    match ops.next s with
    | .error e => .error e
    | .ok (none, s) => .error ⟨.eoi, ops.loc s⟩
    | .ok (some ⟨.newline, _⟩, s) => oneArgG ops f depth toks s
    | .ok (some ⟨.comment, _⟩, s) => oneArgG ops f depth toks s
    | .ok (some t@⟨.sym "BraceOpen", _⟩, s) =>
      oneArgG ops f (depth + 1) (if depth > 0 then toks ++ [t] else toks) s
    | .ok (some t@⟨.sym "BraceClose", loc⟩, s) =>
      if depth = 0 then .error ⟨.unexpected, loc⟩
      else if depth = 1 then .ok (toks, s)
      else oneArgG ops f (depth - 1) (toks ++ [t]) s
    | .ok (some t, s) =>
      if depth = 0 then .ok (toks ++ [t], s) else oneArgG ops f depth (toks ++ [t]) s

/-- The skip loop of a false `@if`: consume tokens up to the matching `@endif` (nesting counter). -/
def skipIfG (ops : TokOps σ) : Nat → Nat → σ → R σ Unit
  | 0, _, s => .error ⟨.fuel, ops.loc s⟩
  | f + 1, level, s =>
    match ops.next s with
    | .error e => .error e
    | .ok (none, s) => .error ⟨.eoi, ops.loc s⟩
    | .ok (some ⟨.dir "If", _⟩, s) => skipIfG ops f (level + 1) s
    | .ok (some ⟨.dir "EndIf", _⟩, s) => if level = 1 then .ok ((), s) else skipIfG ops f (level - 1) s
    | .ok (some _, s) => skipIfG ops f level s

/-- Digits of `n` in base `b` (2 or 16), LEAST significant first, lower case; `digitsOf` reverses
them: `format!("{n:x}")`. -/
def digitsRev (b : Nat) : Nat → Nat → List Char
  | 0, _ => []
  | f + 1, n =>
    let d := n % b
    let c := if d < 10 then Char.ofNat (48 + d) else Char.ofNat (87 + d)
    if n < b then [c] else c :: digitsRev b f (n / b)

def digitsOf (b n : Nat) : List Char := (digitsRev b (n + 1) n).reverse

/-- Tokens generated by `@count N` at `loc`, followed by the re-queued look-ahead token. -/
def countToks (n : Nat) (loc : Loc) (stash : Option LTok) : List MTok :=
  ((List.range n).map fun i => MTok.tok ⟨.num i, loc⟩) ++ (match stash with | some t => [.tok t] | none => [])

end Az65
