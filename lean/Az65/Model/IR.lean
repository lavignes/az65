/-
Intermediate representation of the instruction decision trees (`impl ArchAssembler for
Z80 / Sm83 / Mos6502`).  `tools/azx` (a `syn`-based translator) regenerates one `S` block per
mnemonic arm from /repo's current source on every run (`Az65/Gen/Tree*.lean`); the interpreter
in `Model/Interp.lean` is the executable model of those trees.  The IR mirrors the Rust statement by
statement — same order of `peek`/`next`, same order of pushes and range tests.
-/
namespace Az65.IR

/-- Token patterns of `match asm.next()? { … }` / `match asm.peek()? { … }` arms. -/
inductive Pat where
  | eoi                        -- `None`
  | reg (r : String)           -- `Some(Token::Register { name: RegisterName::R, .. })`
  | flag (f : String)          -- `Some(Token::Flag { name: FlagName::F, .. })`
  | sym (s : String)           -- `Some(Token::Symbol { name: SymbolName::S, .. })`
  | num (v : Nat)              -- `Some(Token::Number { value: v, .. })`
  | anyReg                     -- `Some(Token::Register { name, .. })` (binds `name`)
  | anyFlag                    -- `Some(Token::Flag { name, .. })` (binds `name`)
  | any                        -- `Some(_)` / `Some(tok)`
  | alts (ps : List Pat)       -- `Some(A | B)`
  deriving Repr, Inhabited

/-- Integer-valued expressions over the local variables of an arm. -/
inductive V where
  | lit (n : Int)
  | var (x : String)
  | asU8 (e : V)               -- `e as u8`
  | asU16 (e : V)
  | asU32 (e : V)
  | dataLen                    -- `asm.data.len()`
  | add (a b : V)
  | bin (op : String) (a b : V)  -- `sub`, `shl`, `shr`, `band`, `bor` on integers (bit operations on non-negative operands only)
  | matchInt (e : V) (arms : List (Int × Int)) (dflt : Option Int)   -- `none` = `unreachable!()`
  deriving Repr, Inhabited

/-- Conditions. -/
inductive C where
  | lt (a b : V) | le (a b : V) | gt (a b : V) | ge (a b : V) | eq (a b : V) | ne (a b : V)
  | not (c : C) | and (a b : C) | or (a b : C)
  | inRange (lo hi : Int) (e : V)     -- `(lo..=hi).contains(&e)`
  | bvar (x : String)                 -- a boolean local (`indirect`, `need_paren`)
  deriving Repr, Inhabited

/-- Statements. -/
inductive S where
  | next                                             -- `asm.next()?;`
  | matchTok (peek : Bool) (arms : List (Pat × List S))
  | matchName (arms : List (String × List S)) (dflt : List S)  -- `match name { RegisterName::X => … }`
  | push (e : V)                                     -- `asm.data.push(e)`
  | pushWord (e : V)                                 -- `extend_from_slice(&(e as u16).to_le_bytes())`
  | setData (idx e : V)                              -- `asm.data[idx] = e`
  | expectSym (s : String)
  | expectReg (r : String)
  | call (f : String)                                -- one of the shared operand emitters
  | parseExpr                                        -- `let (loc, expr) = asm.expr()?;`
  | exprHereSub                                      -- `expr.push(Value(here+2)); expr.push(Sub);`
  | ifSolved (t e : List S)                          -- `if let Some(value) = expr.evaluate(..) {t} else {e}`
  | letIfSolved (x : String) (t : List S) (tv : V) (e : List S) (ev : V)
  | constExpr (t e : List S)                         -- `match asm.const_expr()? {(loc,Some(value)) => t, (loc,None) => e}`
  | ite (c : C) (t e : List S)
  | letV (x : String) (e : V)
  | letMatch (x : String) (e : V) (arms : List (Int × Int)) (dflt : List S)
  | letPeek (x : String) (p : Pat)                   -- `let x = matches!(asm.peek()?, p);`
  | itePeekSym (s : String) (t e : List S)           -- `if asm.peeked_symbol(S)?.is_some() {t} else {e}`
  | letPeekSym (x : String) (s : String) (t e : List S) (tv ev : Bool)
  | link (kind : String) (off : V)                   -- `asm.links.push(Link::kind(loc, off, expr))`
  | err (cls : String)                               -- `return asm_err!(…)`; class read off the message
  | eoiErr                                           -- `return asm.end_of_input_err()`
  | retOk                                            -- `return Ok(())`
  | unknown (text : String)                          -- something the translator could not read
  deriving Repr, Inhabited

abbrev Block := List S

/-- One mnemonic arm: the `OperationName` variant and its body. -/
structure Arm where
  op : String
  body : Block
  deriving Repr, Inhabited

end Az65.IR
