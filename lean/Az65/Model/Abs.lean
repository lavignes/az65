import Az65.Model.Effects
import Az65.Model.Link
/-
Statement-level model: a program as a list of already-parsed statements, executed with the SAME
effect functions (`Model/Effects.lean`) that the token-level model (`Model/Stmt.lean`) applies after
reading each statement's tokens.  Instructions enter as piece lists (literal opcode bytes and
operand fields), so theorems hold for every instruction template.  The theorems of C05–C08,
C16 and C20 are stated about `exec` / `run` / `assembleAbs` and the effect functions.
-/
namespace Az65
namespace Abs

/-- One field of an instruction as the encoders emit it. -/
inductive Piece where
  | lit (b : Nat)
  | byte (e : List Node)      -- `expect_immediate`-style 8-bit operand
  | word (e : List Node)      -- 16-bit little-endian operand
  | rel (e : List Node)       -- relative branch target (`expect_branch_immediate`)
  deriving Repr, Inhabited

/-- A struct member. -/
inductive Member where
  | field (name : String) (size : List Node)   -- sized field; `@db` = size 1, `@dw` = size 2
  | pad (size : List Node)                      -- `@ds`
  | align (al : List Node)                      -- `@align`
  deriving Repr, Inhabited

inductive Stmt where
  | label (direct : String)
  | org (e : List Node)
  | dbStr (bytes : List Nat)
  | dbVal (e : List Node)
  | dwVal (e : List Node)
  | ds (size : List Node) (fill : Option (List Node))
  | align (e : List Node)
  | incbin (bytes : List Nat)
  | instr (pieces : List Piece)
  | assert (e : List Node)
  | define (keepMeta : Bool) (direct : String) (e : List Node)      -- @defl / @defn
  | redefine (keepMeta : Bool) (direct : String) (e : List Node)    -- @redefl / @redefn
  | undef (direct : String)
  | segment (code : Bool)
  | struct (name : String) (members : List Member)
  deriving Repr, Inhabited

structure State where
  core : CoreSt := {}
  code : Bool := true
  deriving Repr, Inhabited

/-- What the parser does to the symbols of an expression while reading it: a name whose value can
be computed *now* is inlined as that value (this is what makes an immediate use a snapshot), every
name is recorded in the first-reference table. -/
def resolve (c : CoreSt) : List Node → CoreSt × List Node
  | [] => (c, [])
  | .label n :: r =>
    if n = "@here" then
      -- `@here`: the current address, captured while the expression is read
      let (c', r') := resolve c r
      (c', .val (i32OfNat c.here) :: r')
    else
      let node := labelNode c n
      let (c', r') := resolve (c.touch n {}) r
      (c', node :: r')
  | .sizeOf n :: r =>
    let (c', r') := resolve (c.touch n {}) r
    (c', .sizeOf n :: r')
  | x :: r =>
    let (c', r') := resolve c r
    (c', x :: r')

def ev (c : CoreSt) (e : List Node) : Except Err (Option I32) := evalOpt c e {}

/-- Emission of one instruction piece (the shared operand emitters, without the token reading). -/
def piece (c : CoreSt) : Piece → Except Err CoreSt
  | .lit b => .ok (c.push b)
  | .byte e =>
    let (c, e) := resolve c e
    match ev c e with
    | .error er => .error er
    | .ok (some v) => if u32 v > 255 then .error ⟨.range, {}⟩ else .ok (c.push (lowByte v))
    | .ok none => .ok ((c.addLink ⟨.byte, {}, c.dataLen, 1, e, none⟩).push 0)
  | .word e =>
    let (c, e) := resolve c e
    match ev c e with
    | .error er => .error er
    | .ok (some v) =>
      if u32 v > 65535 then .error ⟨.range, {}⟩ else .ok ((c.push (u32 v % 256)).push (u32 v / 256 % 256))
    | .ok none => .ok (((c.addLink ⟨.word, {}, c.dataLen, 2, e, none⟩).push 0).push 0)
  | .rel e =>
    let (c, e) := resolve c e
    let e' := e ++ [.val (i32OfNat ((c.here + 2) % 4294967296)), .sub]
    match ev c e' with
    | .error er => .error er
    | .ok (some v) =>
      if v.toInt < -128 ∨ v.toInt > 127 then .error ⟨.range, {}⟩ else .ok (c.push (lowByte v))
    | .ok none => .ok ((c.addLink ⟨.signedByte, {}, c.dataLen, 1, e', none⟩).push 0)

def pieces (c : CoreSt) : List Piece → Except Err CoreSt
  | [] => .ok c
  | p :: r =>
    match piece c p with
    | .error e => .error e
    | .ok c' => pieces c' r

/-- One struct member: the running size and the fields defined so far. -/
def member (sname : String) (c : CoreSt) (size : I32) : Member → Except Err (CoreSt × I32)
  | .field name sz =>
    let (c, sz) := resolve c sz
    match ev c sz with
    | .error e => .error e
    | .ok none => .error ⟨.needsNow, {}⟩
    | .ok (some fs) => Eff.structField c (sname ++ "." ++ name) size fs (toString fs.toInt) {}
  | .pad sz =>
    let (c, sz) := resolve c sz
    match ev c sz with
    | .error e => .error e
    | .ok none => .error ⟨.needsNow, {}⟩
    | .ok (some p) => .ok (c, size + p)
  | .align al =>
    let (c, al) := resolve c al
    match ev c al with
    | .error e => .error e
    | .ok none => .error ⟨.needsNow, {}⟩
    | .ok (some a) => if a.toInt < 2 then .error ⟨.range, {}⟩ else .ok (c, size + Eff.structPadding size a)

def members (sname : String) (c : CoreSt) (size : I32) : List Member → Except Err (CoreSt × I32)
  | [] => .ok (c, size)
  | m :: r =>
    match member sname c size m with
    | .error e => .error e
    | .ok (c', size') => members sname c' size' r

/-- Execute one statement. -/
def exec (s : State) : Stmt → Except Err State
  | .label d => (Eff.label s.core d {}).map fun c => { s with core := c }
  | .org e =>
    let (c, e) := resolve s.core e
    match ev c e with
    | .error er => .error er
    | .ok v => (Eff.org c v {}).map fun c => { s with core := c }
  | .dbStr bytes =>
    if s.code then (Eff.dbStr s.core bytes {}).map fun c => { s with core := c }
    else (Eff.skip s.core 1 {}).map fun c => { s with core := c }
  | .dbVal e =>
    if s.code then
      let (c, e) := resolve s.core e
      match ev c e with
      | .error er => .error er
      | .ok v => (Eff.dbVal c v e {}).map fun c => { s with core := c }
    else (Eff.skip s.core 1 {}).map fun c => { s with core := c }
  | .dwVal e =>
    if s.code then
      let (c, e) := resolve s.core e
      match ev c e with
      | .error er => .error er
      | .ok v => (Eff.dwVal c v e {}).map fun c => { s with core := c }
    else (Eff.skip s.core 2 {}).map fun c => { s with core := c }
  | .ds size fill =>
    let (c, size) := resolve s.core size
    match ev c size with
    | .error er => .error er
    | .ok v =>
      match Eff.dsSize c v {} with
      | .error er => .error er
      | .ok (c, n) =>
        if s.code then
          match fill with
          | none => (Eff.dsFill c n none [] {}).map fun c => { s with core := c }
          | some fe =>
            let (c, fe) := resolve c fe
            match ev c fe with
            | .error er => .error er
            | .ok fv => (Eff.dsFill c n (some fv) fe {}).map fun c => { s with core := c }
        else .ok { s with core := c }
  | .align e =>
    let (c, e) := resolve s.core e
    match ev c e with
    | .error er => .error er
    | .ok v => (Eff.align c s.code v {}).map fun c => { s with core := c }
  | .incbin bytes =>
    if s.code then (Eff.incbin s.core {} bytes).map fun c => { s with core := c }
    else .error ⟨.unexpected, {}⟩
  | .instr ps =>
    if s.code then
      match pieces s.core ps with
      | .error er => .error er
      | .ok c => (Eff.instrTail c s.core.dataLen {}).map fun c => { s with core := c }
    else .error ⟨.unexpected, {}⟩
  | .assert e =>
    let (c, e) := resolve s.core e
    match ev c e with
    | .error er => .error er
    | .ok v => (Eff.assert c v e none {}).map fun c => { s with core := c }
  | .define keep d e =>
    if (s.core.symtab.get d).isSome then .error ⟨.alreadyDefined, {}⟩
    else
      let (c, e) := resolve s.core e
      (Eff.define c keep d e {}).map fun c => { s with core := c }
  | .redefine keep d e =>
    let (c, e) := resolve s.core e
    .ok { s with core := Eff.redefine c keep d e }
  | .undef d => .ok { s with core := Eff.undef s.core d }
  | .segment code => .ok { s with code := code }
  | .struct name ms =>
    if (s.core.symtab.get name).isSome then .error ⟨.alreadyDefined, {}⟩
    else
      let old := s.core.ns
      match members name { s.core with ns := some name } 0 ms with
      | .error er => .error er
      | .ok (c, size) => .ok { s with core := ({ c with ns := old }).insertWithMeta name (.val size) [] }

def run (s : State) : List Stmt → Except Err State
  | [] => .ok s
  | st :: r =>
    match exec s st with
    | .error e => .error e
    | .ok s' => run s' r

/-- assemble + link of a statement list: the final image or the diagnostic. -/
def assembleAbs (prog : List Stmt) : Except Err (List Nat) :=
  match run {} prog with
  | .error e => .error e
  | .ok s => link s.core

end Abs
end Az65
