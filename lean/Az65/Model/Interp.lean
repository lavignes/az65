import Az65.Model.ExprParse
import Az65.Model.IR
/-
Interpreter of the decision-tree IR (`Model/IR.lean`) — the executable model of the three
`ArchAssembler::parse` implementations, generic in the token supply — and the four shared operand
emitters of `assembler/mod.rs` (`expect_immediate`, `expect_hmem_immediate`,
`expect_wide_immediate`, `expect_branch_immediate`).
-/
namespace Az65
open IR
variable {σ : Type}

/-- Local variables of one mnemonic arm. -/
structure Locals where
  ints : List (String × Int) := []
  bools : List (String × Bool) := []
  /-- `(loc, expr)` of the last `asm.expr()?` -/
  expr : Option (Loc × List Node) := none
  /-- `name` bound by a `Some(Token::Register { name, .. })` pattern -/
  name : Option String := none
  deriving Repr, Inhabited

def Locals.int (l : Locals) (x : String) : Option Int := (l.ints.find? (·.1 == x)).map (·.2)
def Locals.bool (l : Locals) (x : String) : Option Bool :=
  if x = "true" then some true else (l.bools.find? (·.1 == x)).map (·.2)
def Locals.setInt (l : Locals) (x : String) (v : Int) : Locals := { l with ints := (x, v) :: l.ints }
def Locals.setBool (l : Locals) (x : String) (v : Bool) : Locals := { l with bools := (x, v) :: l.bools }

/-- Value expressions; `none` = a Rust panic (`unreachable!()`) or an unbound variable. -/
def evalV (l : Locals) (dataLen : Nat) : V → Option Int
  | .lit n => some n
  | .var x => l.int x
  | .asU8 e => (evalV l dataLen e).map (· % 256)
  | .asU16 e => (evalV l dataLen e).map (· % 65536)
  | .asU32 e => (evalV l dataLen e).map (· % 4294967296)
  | .dataLen => some dataLen
  | .add a b => do let x ← evalV l dataLen a; let y ← evalV l dataLen b; some (x + y)
  | .bin op a b => do
    let x ← evalV l dataLen a
    let y ← evalV l dataLen b
    if op = "sub" then some (x - y)
    else if y < 0 then none
    else if op = "shl" then some (x * 2 ^ y.toNat)
    else if op = "shr" then some (x / 2 ^ y.toNat)
    else if x < 0 then none
    else if op = "band" then some (Int.ofNat (x.toNat &&& y.toNat))
    else if op = "bor" then some (Int.ofNat (x.toNat ||| y.toNat))
    else none
  | .matchInt e arms dflt => do
    let v ← evalV l dataLen e
    match arms.find? (·.1 == v) with
    | some (_, r) => some r
    | none => dflt

def evalC (l : Locals) (dataLen : Nat) : C → Option Bool
  | .lt a b => do let x ← evalV l dataLen a; let y ← evalV l dataLen b; some (decide (x < y))
  | .le a b => do let x ← evalV l dataLen a; let y ← evalV l dataLen b; some (decide (x ≤ y))
  | .gt a b => do let x ← evalV l dataLen a; let y ← evalV l dataLen b; some (decide (x > y))
  | .ge a b => do let x ← evalV l dataLen a; let y ← evalV l dataLen b; some (decide (x ≥ y))
  | .eq a b => do let x ← evalV l dataLen a; let y ← evalV l dataLen b; some (decide (x = y))
  | .ne a b => do let x ← evalV l dataLen a; let y ← evalV l dataLen b; some (decide (x ≠ y))
  | .not c => (evalC l dataLen c).map (!·)
  | .and a b => do let x ← evalC l dataLen a; let y ← evalC l dataLen b; some (x && y)
  | .or a b => do let x ← evalC l dataLen a; let y ← evalC l dataLen b; some (x || y)
  | .inRange lo hi e => (evalV l dataLen e).map fun v => decide (lo ≤ v ∧ v ≤ hi)
  | .bvar x => l.bool x

/-- Does a token (or end of input) match a pattern?  Returns the bound register/flag name. -/
def matchPat : Pat → Option LTok → Option (Option String)
  | .eoi, none => some none
  | .eoi, some _ => none
  | _, none => none
  | .reg r, some ⟨.reg n, _⟩ => if r = n then some none else none
  | .flag f, some ⟨.flag n, _⟩ => if f = n then some none else none
  | .sym s, some ⟨.sym n, _⟩ => if s = n then some none else none
  | .num v, some ⟨.num n, _⟩ => if v = n then some none else none
  | .anyReg, some ⟨.reg n, _⟩ => some (some n)
  | .anyFlag, some ⟨.flag n, _⟩ => some (some n)
  | .any, some _ => some none
  | .alts ps, t => ps.findSome? fun p => matchPatFlat p t
  | _, _ => none
where
  /-- alternatives are never nested in the sources -/
  matchPatFlat : Pat → Option LTok → Option (Option String)
    | .reg r, some ⟨.reg n, _⟩ => if r = n then some none else none
    | .flag f, some ⟨.flag n, _⟩ => if f = n then some none else none
    | .sym s, some ⟨.sym n, _⟩ => if s = n then some none else none
    | .anyReg, some ⟨.reg n, _⟩ => some (some n)
    | .anyFlag, some ⟨.flag n, _⟩ => some (some n)
    | .any, some _ => some none
    | _, _ => none

def findArm (arms : List (Pat × List S)) (t : Option LTok) : Option (List S × Option String) :=
  match arms with
  | [] => none
  | (p, b) :: r =>
    match matchPat p t with
    | some bound => some (b, bound)
    | none => findArm r t

def linkKindOf : String → Option (LinkKind × Nat)
  | "byte" => some (.byte, 1) | "signed_byte" => some (.signedByte, 1) | "word" => some (.word, 2)
  | _ => none

def errKindOf : String → EKind
  | "range" => .range | "needsNow" => .needsNow | _ => .unexpected

/-- `expect_symbol`. -/
def expectSymbol (ops : TokOps σ) (name : String) (s : σ) : R σ Unit :=
  match ops.next s with
  | .error e => .error e
  | .ok (some ⟨.sym n, loc⟩, s) => if n = name then .ok ((), s) else .error ⟨.unexpected, loc⟩
  | .ok (some t, _) => .error ⟨.unexpected, t.loc⟩
  | .ok (none, s) => .error ⟨.eoi, ops.loc s⟩

/-- `expect_register`. -/
def expectRegister (ops : TokOps σ) (name : String) (s : σ) : R σ Unit :=
  match ops.next s with
  | .error e => .error e
  | .ok (some ⟨.reg n, loc⟩, s) => if n = name then .ok ((), s) else .error ⟨.unexpected, loc⟩
  | .ok (some t, _) => .error ⟨.unexpected, t.loc⟩
  | .ok (none, s) => .error ⟨.eoi, ops.loc s⟩

def u32 (v : I32) : Nat := v.toNat
def lowByte (v : I32) : Nat := v.toNat % 256

/-- The four shared operand emitters (`expect_immediate`, `expect_hmem_immediate`,
`expect_wide_immediate`, `expect_branch_immediate` of `assembler/mod.rs`). -/
def operandEmitter (ops : TokOps σ) (fuel : Nat) (which : String) (s : σ) : R σ Unit :=
  match parseExpr ops fuel s with
  | .error e => .error e
  | .ok ((loc, nodes), s) =>
    let c := ops.getC s
    if which = "expect_branch_immediate" then
      let nodes := nodes ++ [.val (i32OfNat ((c.here + 2) % 4294967296)), .sub]
      match evalOpt c nodes loc with
      | .error e => .error e
      | .ok (some v) =>
        if v.toInt < -128 ∨ v.toInt > 127 then .error ⟨.range, loc⟩
        else .ok ((), ops.setC s (c.push (lowByte v)))
      | .ok none =>
        .ok ((), ops.setC s ((c.addLink ⟨.signedByte, loc, c.dataLen, 1, nodes, none⟩).push 0))
    else
      match evalOpt c nodes loc with
      | .error e => .error e
      | .ok (some v) =>
        if which = "expect_immediate" then
          if u32 v > 255 then .error ⟨.range, loc⟩ else .ok ((), ops.setC s (c.push (lowByte v)))
        else if which = "expect_hmem_immediate" then
          if u32 v > 255 then
            if u32 v > 65535 then .error ⟨.range, loc⟩
            else if ¬ (0xFF00 ≤ v.toInt ∧ v.toInt ≤ 0xFFFF) then .error ⟨.range, loc⟩
            else .ok ((), ops.setC s (c.push (lowByte v)))
          else .ok ((), ops.setC s (c.push (lowByte v)))
        else if which = "expect_wide_immediate" then
          if u32 v > 65535 then .error ⟨.range, loc⟩
          else .ok ((), ops.setC s ((c.push (u32 v % 256)).push (u32 v / 256 % 256)))
        else .error ⟨.crash "unknown emitter", loc⟩
      | .ok none =>
        if which = "expect_wide_immediate" then
          .ok ((), ops.setC s (((c.addLink ⟨.word, loc, c.dataLen, 2, nodes, none⟩).push 0).push 0))
        else if which = "expect_hmem_immediate" then
          -- `(E >= $FF00 && E <= $FFFF) ? <E : E` resolved as a byte at link time
          let high := nodes ++ [.val 0xFF00, .ge] ++ nodes ++ [.val 0xFFFF, .le, .andLogical] ++
            nodes ++ [.lo] ++ nodes ++ [.ternary]
          .ok ((), ops.setC s ((c.addLink ⟨.byte, loc, c.dataLen, 1, high, none⟩).push 0))
        else
          .ok ((), ops.setC s ((c.addLink ⟨.byte, loc, c.dataLen, 1, nodes, none⟩).push 0))

/-- Outcome of a block: fall through with updated locals, or `return Ok(())`. -/
inductive Flow where
  | cont (l : Locals)
  | ret
  deriving Inhabited

/-- Rust block scoping: bindings made inside a nested block do not escape it. -/
def endScope {σ : Type} (l : Locals) (r : R σ Flow) : R σ Flow :=
  match r with
  | .error e => .error e
  | .ok (.ret, s) => .ok (.ret, s)
  | .ok (.cont _, s) => .ok (.cont l, s)

def setNth (l : List Nat) (i : Nat) (v : Nat) : List Nat :=
  match l, i with
  | [], _ => []
  | _ :: r, 0 => v :: r
  | a :: r, i + 1 => a :: setNth r i v

mutual
def execBlock (ops : TokOps σ) : Nat → List S → Locals → σ → R σ Flow
  | 0, _, _, s => .error ⟨.fuel, ops.loc s⟩
  | _ + 1, [], l, s => .ok (.cont l, s)
  | f + 1, st :: rest, l, s =>
    match execStmt ops f st l s with
    | .error e => .error e
    | .ok (.ret, s) => .ok (.ret, s)
    | .ok (.cont l, s) => execBlock ops f rest l s

def execStmt (ops : TokOps σ) : Nat → S → Locals → σ → R σ Flow
  | 0, _, _, s => .error ⟨.fuel, ops.loc s⟩
  | f + 1, st, l, s =>
    let crash (site : String) : R σ Flow := .error ⟨.crash site, ops.loc s⟩
    match st with
    | .next =>
      match ops.next s with
      | .error e => .error e
      | .ok (_, s) => .ok (.cont l, s)
    | .matchTok peek arms =>
      match (if peek then ops.peek s else ops.next s) with
      | .error e => .error e
      | .ok (t, s) =>
        match findArm arms t with
        | none => .error ⟨.crash "non-exhaustive match", ops.loc s⟩
        | some (b, bound) =>
          let l' := match bound with | some n => { l with name := some n } | none => l
          endScope l (execBlock ops f b l' s)
    | .matchName arms dflt =>
      match l.name with
      | none => crash "match name: unbound"
      | some n =>
        match arms.find? (·.1 == n) with
        | some (_, b) => endScope l (execBlock ops f b l s)
        | none => endScope l (execBlock ops f dflt l s)
    | .push e =>
      let c := ops.getC s
      match evalV l c.dataLen e with
      | none => crash "push: value"
      | some v => .ok (.cont l, ops.setC s (c.push (v % 256).toNat))
    | .pushWord e =>
      let c := ops.getC s
      match evalV l c.dataLen e with
      | none => crash "pushWord: value"
      | some v =>
        let w := (v % 65536).toNat
        .ok (.cont l, ops.setC s ((c.push (w % 256)).push (w / 256)))
    | .setData idx e =>
      let c := ops.getC s
      match evalV l c.dataLen idx, evalV l c.dataLen e with
      | some i, some v =>
        if i.toNat < c.dataLen then
          .ok (.cont l, ops.setC s { c with dataRev := (setNth c.dataRev.reverse i.toNat (v % 256).toNat).reverse })
        else crash "data index out of bounds"
      | _, _ => crash "setData: value"
    | .expectSym name =>
      match expectSymbol ops name s with
      | .error e => .error e
      | .ok (_, s) => .ok (.cont l, s)
    | .expectReg name =>
      match expectRegister ops name s with
      | .error e => .error e
      | .ok (_, s) => .ok (.cont l, s)
    | .call which =>
      match operandEmitter ops f which s with
      | .error e => .error e
      | .ok (_, s) => .ok (.cont l, s)
    | .parseExpr =>
      match parseExpr ops f s with
      | .error e => .error e
      | .ok (r, s) => .ok (.cont { l with expr := some r }, s)
    | .exprHereSub =>
      match l.expr with
      | none => crash "exprHereSub: no expr"
      | some (loc, nodes) =>
        let here := (ops.getC s).here
        .ok (.cont { l with expr := some (loc, nodes ++ [.val (i32OfNat ((here + 2) % 4294967296)), .sub]) }, s)
    | .ifSolved t e =>
      match l.expr with
      | none => crash "ifSolved: no expr"
      | some (loc, nodes) =>
        match evalOpt (ops.getC s) nodes loc with
        | .error er => .error er
        | .ok (some v) => endScope l (execBlock ops f t (l.setInt "value" v.toInt) s)
        | .ok none => endScope l (execBlock ops f e l s)
    | .letIfSolved x t tv e ev =>
      match l.expr with
      | none => crash "letIfSolved: no expr"
      | some (loc, nodes) =>
        match evalOpt (ops.getC s) nodes loc with
        | .error er => .error er
        | .ok (some v) =>
          match execBlock ops f t (l.setInt "value" v.toInt) s with
          | .error er => .error er
          | .ok (.ret, s) => .ok (.ret, s)
          | .ok (.cont l', s) =>
            match evalV l' (ops.getC s).dataLen tv with
            | none => crash "letIfSolved: tail"
            | some r => .ok (.cont (l.setInt x r), s)
        | .ok none =>
          match execBlock ops f e l s with
          | .error er => .error er
          | .ok (.ret, s) => .ok (.ret, s)
          | .ok (.cont l', s) =>
            match evalV l' (ops.getC s).dataLen ev with
            | none => crash "letIfSolved: tail"
            | some r => .ok (.cont (l.setInt x r), s)
    | .constExpr t e =>
      match constExpr ops f s with
      | .error er => .error er
      | .ok ((loc, some v), s) =>
        endScope l (execBlock ops f t ({ l with expr := some (loc, []) }.setInt "value" v.toInt) s)
      | .ok ((loc, none), s) => endScope l (execBlock ops f e { l with expr := some (loc, []) } s)
    | .ite c t e =>
      match evalC l (ops.getC s).dataLen c with
      | none => crash "ite: condition"
      | some true => endScope l (execBlock ops f t l s)
      | some false => endScope l (execBlock ops f e l s)
    | .letV x e =>
      match evalV l (ops.getC s).dataLen e with
      | none => crash "letV: value"
      | some v => .ok (.cont (l.setInt x v), s)
    | .letMatch x e arms dflt =>
      match evalV l (ops.getC s).dataLen e with
      | none => crash "letMatch: value"
      | some v =>
        match arms.find? (·.1 == v) with
        | some (_, r) => .ok (.cont (l.setInt x r), s)
        | none => endScope l (execBlock ops f dflt l s)
    | .letPeek x p =>
      match ops.peek s with
      | .error e => .error e
      | .ok (t, s) => .ok (.cont (l.setBool x (matchPat p t).isSome), s)
    | .itePeekSym name t e =>
      match peekedSymbol ops name s with
      | .error er => .error er
      | .ok (true, s) => endScope l (execBlock ops f t l s)
      | .ok (false, s) => endScope l (execBlock ops f e l s)
    | .letPeekSym x name t e tv ev =>
      match peekedSymbol ops name s with
      | .error er => .error er
      | .ok (true, s) =>
        match execBlock ops f t l s with
        | .error er => .error er
        | .ok (.ret, s) => .ok (.ret, s)
        | .ok (.cont _, s) => .ok (.cont (l.setBool x tv), s)
      | .ok (false, s) =>
        match execBlock ops f e l s with
        | .error er => .error er
        | .ok (.ret, s) => .ok (.ret, s)
        | .ok (.cont _, s) => .ok (.cont (l.setBool x ev), s)
    | .link kind off =>
      match l.expr, linkKindOf kind with
      | some (loc, nodes), some (k, len) =>
        let c := ops.getC s
        match evalV l c.dataLen off with
        | none => crash "link: offset"
        | some o => .ok (.cont l, ops.setC s (c.addLink ⟨k, loc, o.toNat, len, nodes, none⟩))
      | _, _ => crash "link: no expr / kind"
    | .err cls =>
      -- location: that of the expression if one is in scope, else the current token's
      .error ⟨errKindOf cls, match l.expr with | some (loc, _) => loc | none => ops.loc s⟩
    | .eoiErr => .error ⟨.eoi, ops.loc s⟩
    | .retOk => .ok (.ret, s)
    | .unknown t => crash ("untranslated construct: " ++ t)
end

/-- `<Z as ArchAssembler>::parse(self, name)` for one mnemonic arm. -/
def execArm (ops : TokOps σ) (fuel : Nat) (body : Block) (s : σ) : R σ Unit :=
  match execBlock ops fuel body {} s with
  | .error e => .error e
  | .ok (_, s) => .ok ((), s)

end Az65
