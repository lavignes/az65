import Az65.Model.Interp
/-
Model of `src/linker.rs` (`Module::link`): the first-reference check for undefined names, then
the deferred patches in registration order, each with its range test.
-/
namespace Az65

def patchAt (data : List Nat) (off : Nat) (bs : List Nat) : List Nat :=
  data.take off ++ bs ++ data.drop (off + bs.length)

/-- The undefined-symbol check over the first-reference table.  (The Rust iterates a hash map, so
*which* undefined name is reported first is unspecified; whether one is reported is not.) -/
def checkRefs (c : CoreSt) : List (String × Loc) → Except Err Unit
  | [] => .ok ()
  | (n, loc) :: r =>
    match c.symtab.get n with
    | none => .error ⟨.undefined, loc⟩
    | some e =>
      match e.sym with
      | .val _ => checkRefs c r
      | .expr body =>
        match evaluate c.symtab body with
        | .ok _ => checkRefs c r
        | .unsolved => .error ⟨.undefined, loc⟩
        | .crash s => .error ⟨.crash s, loc⟩

def applyLink (c : CoreSt) (data : List Nat) (l : Link) : Except Err (List Nat) :=
  match evaluate c.symtab l.expr with
  | .crash s => .error ⟨.crash s, l.loc⟩
  | .unsolved => .error ⟨.unsolved, l.loc⟩
  | .ok v =>
    match l.kind with
    | .byte =>
      if u32 v > 255 then .error ⟨.range, l.loc⟩
      else if l.offset < data.length then .ok (patchAt data l.offset [lowByte v])
      else .error ⟨.crash "link: index out of bounds", l.loc⟩
    | .signedByte =>
      if v.toInt < -128 ∨ v.toInt > 127 then .error ⟨.range, l.loc⟩
      else if l.offset < data.length then .ok (patchAt data l.offset [lowByte v])
      else .error ⟨.crash "link: index out of bounds", l.loc⟩
    | .word =>
      if u32 v > 65535 then .error ⟨.range, l.loc⟩
      else if l.offset + 1 < data.length then .ok (patchAt data l.offset [u32 v % 256, u32 v / 256 % 256])
      else .error ⟨.crash "link: index out of bounds", l.loc⟩
    | .space =>
      if u32 v > 255 then .error ⟨.range, l.loc⟩
      else if l.offset + l.len ≤ data.length then .ok (patchAt data l.offset (List.replicate l.len (lowByte v)))
      else .error ⟨.crash "link: index out of bounds", l.loc⟩
    | .assert =>
      if v = 0 then .error ⟨.assertFail, l.loc⟩ else .ok data

def applyLinks (c : CoreSt) : List Nat → List Link → Except Err (List Nat)
  | data, [] => .ok data
  | data, l :: r =>
    match applyLink c data l with
    | .error e => .error e
    | .ok d => applyLinks c d r

/-- `Module::link`: the final image, or the diagnostic. -/
def link (c : CoreSt) : Except Err (List Nat) :=
  match checkRefs c c.hits with
  | .error e => .error e
  | .ok _ => applyLinks c c.data c.links

end Az65
