import Az65.Model.Stmt
import Az65.Model.Plain
import Az65.Model.Link
import Az65.Spec.Opnd
/-
One instruction through the generated decision tree, over the plain token supply, followed by
the linker: the function about which the form-level theorems of C01–C03 are stated and which the
driver's `enc` mode runs.  Operand values are written as number tokens when known now, and as a
label defined only at link time otherwise.
-/
namespace Az65
open Spec

def tk (t : Tok) : LTok := ⟨t, {}⟩

/-- An operand value as tokens: a literal (negative values as `- n`) or the label `vK`. -/
def valueToks (known : Bool) (k : Nat) (v : Int) : List LTok :=
  if known then
    if v < 0 then [tk (.sym "Minus"), tk (.num (-v).toNat)] else [tk (.num v.toNat)]
  else [tk (.label .global ("v" ++ toString k))]

def regTok (a : Arch) (r : String) : LTok :=
  match lookupName (lexTables a).regs r with
  | some v => tk (.reg v)
  | none => tk (.label .global r)

def flagTok (a : Arch) (f : String) : LTok :=
  match lookupName (lexTables a).flags f with
  | some v => tk (.flag v)
  | none => tk (.label .global f)

def opTok (a : Arch) (m : String) : LTok :=
  match lookupName (lexTables a).ops m with
  | some v => tk (.op v)
  | none => tk (.label .global m)

/-- Source tokens of one Z80 / SM83 operand (value slot index `k`). -/
def opndToks (a : Arch) (known : Bool) (k : Nat) : Opnd → List LTok
  | .reg r => [regTok a r]
  | .flag f => [flagTok a f]
  | .ind r => [tk (.sym "ParenOpen"), regTok a r, tk (.sym "ParenClose")]
  | .idx r d => [tk (.sym "ParenOpen"), regTok a r, tk (.sym "Plus")] ++ valueToks known k d ++ [tk (.sym "ParenClose")]
  | .regPlus r d => [regTok a r, tk (.sym "Plus")] ++ valueToks known k d
  | .indInc r => [tk (.sym "ParenOpen"), regTok a r, tk (.sym "Plus"), tk (.sym "ParenClose")]
  | .indDec r => [tk (.sym "ParenOpen"), regTok a r, tk (.sym "Minus"), tk (.sym "ParenClose")]
  | .mem v => [tk (.sym "ParenOpen")] ++ valueToks known k v ++ [tk (.sym "ParenClose")]
  | .imm v => valueToks known k v

def opndValue : Opnd → Option Int
  | .idx _ d => some d | .regPlus _ d => some d | .mem v => some v | .imm v => some v | _ => none

def opndsToks (a : Arch) (known : Bool) : Nat → List Opnd → List LTok
  | _, [] => []
  | k, [o] => opndToks a known k o
  | k, o :: r => opndToks a known k o ++ [tk (.sym "Comma")] ++ opndsToks a known (k + 1) r

def opndsDefs : Nat → List Opnd → List (String × Int)
  | _, [] => []
  | k, o :: r => (match opndValue o with | some v => [("v" ++ toString k, v)] | none => []) ++ opndsDefs (k + 1) r

/-- Source tokens of a 6502 operand. -/
def modeToks (known : Bool) : Mode → List LTok
  | .implied => []
  | .acc => [regTok .mos6502 "a"]
  | .immediate v => [tk (.sym "Hash")] ++ valueToks known 0 v
  | .direct v => valueToks known 0 v
  | .directX v => valueToks known 0 v ++ [tk (.sym "Comma"), regTok .mos6502 "x"]
  | .directY v => valueToks known 0 v ++ [tk (.sym "Comma"), regTok .mos6502 "y"]
  | .indirect v => [tk (.sym "ParenOpen")] ++ valueToks known 0 v ++ [tk (.sym "ParenClose")]
  | .indirectX v => [tk (.sym "ParenOpen")] ++ valueToks known 0 v ++ [tk (.sym "Comma"), regTok .mos6502 "x", tk (.sym "ParenClose")]
  | .indirectY v => [tk (.sym "ParenOpen")] ++ valueToks known 0 v ++ [tk (.sym "ParenClose"), tk (.sym "Comma"), regTok .mos6502 "y"]

def modeDefs : Mode → List (String × Int)
  | .immediate v | .direct v | .directX v | .directY v | .indirect v | .indirectX v | .indirectY v => [("v0", v)]
  | _ => []

/-- Assemble one instruction line `toks` at address `pc` through the generated tree of `a`, then
link with the late definitions `defs`.  `none` = rejected (at assembly or at link time). -/
def asmOne (a : Arch) (pc : Nat) (toks : List LTok) (defs : List (String × Int)) : Option (List Nat) :=
  match toks with
  | ⟨.op name, _⟩ :: _ =>
    match findArmBody (armsOf a) name with
    | none => none
    | some body =>
      let st : PlainSt := { toks := toks ++ [tk .newline], core := { here := pc } }
      match execArm plainOps 400 body st with
      | .error _ => none
      | .ok (_, s) =>
        -- the whole line must have been consumed (up to the line break)
        match s.toks with
        | [⟨.newline, _⟩] =>
          let c := s.core
          if c.here + c.dataLen > TOP then none else
          let c := defs.foldl (fun c d => c.insert d.1 (.val (BitVec.ofInt 32 d.2))) c
          match link c with
          | .ok bytes => some bytes
          | .error _ => none
        | _ => none
  | _ => none

/-- Z80 / SM83 source line for a mnemonic and operands. -/
def asmOpnds (a : Arch) (pc : Nat) (m : String) (ops : List Opnd) (known : Bool) : Option (List Nat) :=
  asmOne a pc (opTok a m :: opndsToks a known 0 ops) (if known then [] else opndsDefs 0 ops)

/-- 6502 source line for a mnemonic and an operand spelling. -/
def asmMode (pc : Nat) (m : String) (md : Mode) (known : Bool) : Option (List Nat) :=
  asmOne .mos6502 pc (opTok .mos6502 m :: modeToks known md) (if known then [] else modeDefs md)

end Az65
