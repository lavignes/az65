import Az65.Model.Link
/-
Model of the three debug exporters (`src/debug.rs` AZ65Meta JSON, `src/sm83/sym.rs`,
`src/mos6502/namelist.rs`): functions from the final symbol table to the records each file holds.
The hash-map iteration order of the Rust is not modelled: files are compared as sets of records.
Also here: `Cli.main`, the mirror of `main()` in `src/bin/az65.rs` (C15).
-/
namespace Az65
namespace Export

/-- Final value of a symbol (lazy symbols are evaluated against the final table); `none` = the
exporter reports "could not be solved". -/
def finalValue (c : CoreSt) (e : Entry) : Option I32 :=
  match e.sym with
  | .val v => some v
  | .expr body =>
    match evaluate c.symtab body with
    | .ok v => some v
    | _ => none

structure JsonSym where
  name : String
  value : Int
  metas : List (String × String)
  deriving Repr

/-- Every symbol of the table with its final value, in table order; the first unsolvable symbol
is the error. -/
def rowsOf (c : CoreSt) : Env → Except String (List (String × Entry × I32))
  | [] => .ok []
  | (n, e) :: r =>
    match finalValue c e with
    | none => .error n
    | some v =>
      match rowsOf c r with
      | .error x => .error x
      | .ok l => .ok ((n, e, v) :: l)

/-- `-g FILE`: every symbol with its name, final value and metadata. -/
def json (c : CoreSt) : Except String (List JsonSym) :=
  match rowsOf c c.symtab with
  | .error x => .error x
  | .ok rows => .ok (rows.map fun (n, e, v) => { name := n, value := v.toInt, metas := e.metas })

def hasMeta (e : Entry) (k v : String) : Bool := e.metas.any fun kv => kv.1 == k && kv.2 == v

def hexVal? (s : String) : Option Nat :=
  if s.isEmpty then none else
  let cs := if s.startsWith "+" then (s.drop 1).toString.toList else s.toList
  if cs.isEmpty then none else
  if cs.all isHexDigit then some (cs.foldl (fun acc ch => acc * 16 + digitVal ch) 0) else none

/-- the last `BANK` entry that parses as hex wins (the Rust loop overwrites `bank`) -/
def bankOf (e : Entry) : Option Nat :=
  (e.metas.filter (·.1 == "BANK")).foldl (fun acc kv => match hexVal? kv.2 with | some b => some b | none => acc) none

def u16 (v : I32) : Nat := v.toNat % 65536

/-- One line of a `.sym` / `.nl` file: optional bank, 16-bit value, label. -/
structure Line where
  bank : Option Nat
  value : Nat
  label : String
  deriving Repr, DecidableEq

/-- SM83 `.sym`: HRAM symbols, then ROM / WRAM / SRAM / VRAM symbols that carry a BANK. -/
def sym (c : CoreSt) : Except String (List Line) := do
  let rows ← rowsOf c c.symtab
  let hram := (rows.filter fun (_, e, _) => hasMeta e "ID" "HRAM").map fun (n, _, v) => Line.mk none (u16 v) n
  let banked (id : String) := (rows.filter fun (_, e, _) => hasMeta e "ID" id && (bankOf e).isSome).map
    fun (n, e, v) => Line.mk (bankOf e) (u16 v) n
  pure (hram ++ banked "ROM" ++ banked "WRAM" ++ banked "SRAM" ++ banked "VRAM")

/-- 6502 `.nl`: a `.ram.nl` file for ZP / RAM symbols and one `.<BANK>.nl` per PRG bank. -/
def nl (c : CoreSt) : Except String (List Line × List Line) := do
  let rows ← rowsOf c c.symtab
  let ram := (rows.filter fun (_, e, _) => hasMeta e "ID" "ZP" || hasMeta e "ID" "RAM").map fun (n, _, v) => Line.mk none (u16 v) n
  let prg := (rows.filter fun (_, e, _) => hasMeta e "ID" "PRG" && (bankOf e).isSome).map fun (n, e, v) => Line.mk (bankOf e) (u16 v) n
  pure (ram, prg)

end Export

/-! ### the command line (`src/bin/az65.rs`) -/
namespace Cli

/-- What each phase did, as far as `main` is concerned. -/
structure Phases where
  outputOpens : Bool := true                   -- `-o FILE` could be created
  outputWrites : Bool := true                  -- the image could be written to it
  searchPathsOk : Bool := true                 -- every `-I` directory exists
  assemble : Bool                              -- parse phase succeeded
  link : Option (List Nat)                     -- `some image` = link succeeded
  exports : List Bool := []                    -- requested exports, in order (NL, SYM, JSON)
  deriving Repr

structure Outcome where
  exit : Nat
  stdout : List Nat
  /-- contents of the `-o` file if it was created -/
  ofile : Option (List Nat)
  message : Bool                               -- something was printed on standard error
  exportsWritten : Nat                         -- how many export files were produced
  deriving Repr, DecidableEq

/-- `main`: open the output, add search paths, assemble, link (the image is written only after
every patch resolved), then the requested exports; the first failure ends the run. -/
def main (toFile : Bool) (p : Phases) : Outcome :=
  if toFile && !p.outputOpens then ⟨1, [], none, true, 0⟩ else
  let empty : Option (List Nat) := if toFile then some [] else none
  if !p.searchPathsOk then ⟨1, [], empty, true, 0⟩ else
  if !p.assemble then ⟨1, [], empty, true, 0⟩ else
  match p.link with
  | none => ⟨1, [], empty, true, 0⟩
  | some image =>
    if toFile && !p.outputWrites then ⟨1, [], some [], true, 0⟩ else
    let out := if toFile then [] else image
    let file := if toFile then some image else none
    let done := (p.exports.takeWhile id).length
    if done < p.exports.length then ⟨1, out, file, true, done⟩
    else ⟨0, out, file, false, done⟩

end Cli
end Az65
