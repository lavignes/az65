import Az65.Model.Interp
import Az65.Model.PumpG
import Az65.Model.Tables
import Az65.Model.CharReader
import Az65.Gen.TreeZ80
import Az65.Gen.TreeSm83
import Az65.Gen.TreeMos6502
/-
Model of `src/assembler/mod.rs` (the pump `peek`/`next` with macro replay and the macro-like
directives; the statement loop `parse_all` itself is in `Model/Stmt.lean`) and of `src/fileman.rs`.
Written in the state monad over `Asm`; all loops take fuel.  Instruction statements are run by the
decision-tree interpreter over the trees regenerated from the source (`Az65/Gen/Tree*.lean`).
-/
namespace Az65

/-! ### files -/

structure FileEntry where
  path : String
  data : List Nat
  /-- a read fault after this many bytes (`none`: no fault) -/
  failAt : Option Nat := none
  deriving Repr, Inhabited

structure FileSys where
  files : List FileEntry := []
  dirs : List String := ["/"]
  deriving Repr, Inhabited

/-- Lexical normalisation of an absolute path (what `path-absolutize` does, and — there being
no symlinks in the model — what the operating system resolves). -/
def normSegs : List String → List String → List String
  | [], acc => acc.reverse
  | seg :: r, acc =>
    if seg = "" ∨ seg = "." then normSegs r acc
    else if seg = ".." then normSegs r acc.tail
    else normSegs r (seg :: acc)

def normPath (p : String) : String := "/" ++ "/".intercalate (normSegs (p.splitOn "/") [])

/-- `Path::join` followed by absolutisation against `cwd`. -/
def absolutize (cwd path : String) : String :=
  if path.startsWith "/" then normPath path else normPath (cwd ++ "/" ++ path)

def parentDir (p : String) : String :=
  let segs := normSegs (p.splitOn "/") []
  "/" ++ "/".intercalate segs.dropLast

def FileSys.isFile (fs : FileSys) (p : String) : Bool := fs.files.any (·.path == p)
def FileSys.find (fs : FileSys) (p : String) : Option FileEntry := fs.files.find? (·.path == p)

/-- `FileManager::search`: the directory of the including file first, then each search path in
order; the first candidate that exists and is a regular file wins. -/
def searchFile (fs : FileSys) (searchPaths : List String) (cwd path : String) : Option String :=
  ((cwd :: searchPaths).map fun d => absolutize d path).find? fs.isFile

/-! ### macros and token sources -/

structure Macro where
  args : List String
  toks : List MTok
  deriving Repr, Inhabited

structure MacroState where
  name : String
  args : List (List LTok)
  macroOff : Nat := 0
  expandingArg : Option Nat := none
  argOff : Nat := 0
  loc : Loc
  includedFrom : Option Loc
  entropy : String
  deriving Repr, Inhabited

inductive Source where
  | lex (lx : Lexer) (includedFrom : Option Loc)
  | mac (ms : MacroState)
  deriving Repr, Inhabited

def Source.loc : Source → Loc
  | .lex lx _ => lx.loc
  | .mac ms => ms.loc

def Source.includedFrom : Source → Option Loc
  | .lex _ i => i
  | .mac ms => ms.includedFrom

inductive Seg where
  | code | addr
  deriving Repr, DecidableEq, Inhabited

structure Asm where
  arch : Arch
  fs : FileSys
  searchPaths : List String := []
  /-- interned absolute paths; `Loc.file` indexes this list -/
  paths : List String := []
  sources : List Source := []        -- `token_sources`, top of the stack first
  source : Option Source := none     -- `token_source`
  cwds : List String := []
  cwd : Option String := none
  macros : List (String × Macro) := []
  core : CoreSt := {}
  seg : Seg := .code
  entropy : Nat := 0
  stash : Option LTok := none
  loc : Option Loc := none
  activeMacro : Option String := none
  ifLevel : Nat := 0
  echo : List String := []
  deriving Inhabited

abbrev AM := StateT Asm (Except Err)

def fail {α} (k : EKind) (loc : Loc) : AM α := throw ⟨k, loc⟩

def curLoc : AM Loc := do
  match (← get).loc with
  | some l => pure l
  | none => throw ⟨.crash "loc.unwrap()", {}⟩

def eoiErr {α} : AM α := do fail .eoi (← curLoc)

def internPath (p : String) : AM Nat := do
  let s ← get
  match s.paths.idxOf? p with
  | some i => pure i
  | none => set { s with paths := s.paths ++ [p] }; pure s.paths.length

def lookupMacro (ms : List (String × Macro)) (n : String) : Option Macro :=
  match ms with
  | [] => none
  | (k, m) :: r => if k = n then some m else lookupMacro r n

def setMacro (ms : List (String × Macro)) (n : String) (m : Macro) : List (String × Macro) :=
  match ms with
  | [] => [(n, m)]
  | (k, v) :: r => if k = n then (k, m) :: r else (k, v) :: setMacro r n m

/-- Characters of a file through the `CharReader` model (chunking is irrelevant: `Thm.C17`). -/
def fileChars (f : FileEntry) : List Char × StreamEnd :=
  let (cps, e) := Model.CR.run (f.data.length + 2) (Model.CR.init f.data [] f.failAt)
  (cps.map Char.ofNat, match e with | .eof => .eof | .utf8 => .utf8 | .io => .io)

/-- `TokenSource::next` for a macro replay: the index triple of the Rust. -/
def macroNext (m : Macro) : Nat → MacroState → Option LTok × MacroState
  | 0, st => (none, st)
  | f + 1, st =>
    if st.macroOff ≥ m.toks.length then (none, st) else
    match st.expandingArg with
    | some a =>
      let argToks := st.args.getD a []
      if st.argOff ≥ argToks.length then
        macroNext m f { st with expandingArg := none, macroOff := st.macroOff + 1 }
      else
        let t := argToks.getD st.argOff default
        (some t, { st with argOff := st.argOff + 1, loc := t.loc })
    | none =>
      match m.toks.getD st.macroOff default with
      | .tok t => (some t, { st with macroOff := st.macroOff + 1, loc := t.loc })
      | .arg i => macroNext m f { st with expandingArg := some i, argOff := 0 }
      | .entropy loc => (some ⟨.str st.entropy, loc⟩, { st with macroOff := st.macroOff + 1, loc := loc })

/-- `TokenSource::next`. -/
def sourceNext (s : Asm) (src : Source) : Except Err (Option LTok × Source) :=
  match src with
  | .lex lx inc =>
    match Lexer.next (lexTables s.arch) lx.fuel lx with
    | .tok t lx' => .ok (some t, .lex lx' inc)
    | .err e _ => .error ⟨.lex e.kind, e.loc⟩
    | .done lx' => .ok (none, .lex lx' inc)
    | .more lx' => .ok (none, .lex lx' inc)
  | .mac ms =>
    match lookupMacro s.macros ms.name with
    | none => .error ⟨.crash "macros.get_mut(name).unwrap()", ms.loc⟩
    | some m =>
      let (t, ms') := macroNext m (2 * m.toks.length + 2) ms
      .ok (t, .mac ms')

def pushSource (src : Source) (cwd : String) : AM Unit :=
  modify fun s => { s with sources := src :: s.sources, cwds := cwd :: s.cwds }

/-- The common tail of the macro-like directives: park the current source, then the new one. -/
def pushInvocation (ms : MacroState) : AM Unit := do
  let s ← get
  match s.source, s.cwd with
  | some cur, some cwd =>
    set { s with sources := .mac ms :: cur :: s.sources, cwds := cwd :: cwd :: s.cwds,
                 source := none, cwd := none }
  | _, _ => eoiErr          -- nothing left to come back to: `suspend_token_source` reports the end of input

def showSymbol (n : String) : String := display Gen.symbolDisplay n

/-- Text contributed by a token to `@string` / `@label`. -/
def stringify (a : Arch) (t : Tok) : Option String :=
  let d := displayTables a
  match t with
  | .str s => some s
  | .label _ s => some s
  | .num v => some (String.ofList (digitsOf 16 v))
  | .op n => some (display d.ops n)
  | .reg n => some (display d.regs n)
  | .sym n => some (showSymbol n)
  | _ => none

def labelKindOf (s : String) : Option LabelKind :=
  match (s.toList.filter (· == '.')).length with
  | 0 => some .global
  | 1 => if s.startsWith "." then some .loc else some .direct
  | _ => none

/-- `str::split_whitespace().count()` -/
def wordCount : List Char → Bool → Nat → Nat
  | [], _, n => n
  | c :: r, inWord, n =>
    if isWs c then wordCount r false n
    else if inWord then wordCount r true n else wordCount r true (n + 1)

def binDigits (v : Nat) : String := String.ofList (digitsOf 2 v)
def hexDigits (v : Nat) : String := String.ofList (digitsOf 16 v)

def qualifyOrFail (kind : LabelKind) (value : String) (loc : Loc) : AM String := do
  match qualify (← get).core.ns kind value with
  | some d => pure d
  | none => fail .noScope loc

mutual
/-- `Assembler::peek` (the pump). -/
def peekF : Nat → AM (Option LTok)
  | 0 => do fail .fuel ((← get).loc.getD {})
  | f + 1 => do
    let s ← get
    -- resume the source below when the current one is exhausted
    if s.source.isNone then
      match s.sources, s.cwds with
      | src :: rest, c :: crest => set { s with source := some src, sources := rest, cwd := some c, cwds := crest }
      | src :: rest, [] => set { s with source := some src, sources := rest, cwd := none }
      | [], c :: crest => set { s with cwd := some c, cwds := crest }
      | [], [] => set { s with cwd := none }
    let s ← get
    match s.stash with
    | some t => pure (some t)
    | none =>
      match s.source with
      | none => pure none
      | some src =>
        let (tok, src) ← liftExcept (sourceNext s src)
        set { s with source := some src }
        -- a backslash swallows the following line break or comment
        if let some ⟨.sym "BackSlash", _⟩ := tok then
          let s ← get
          let (tok2, src) ← liftExcept (sourceNext s src)
          set { s with source := some src }
          match tok2 with
          | none => eoiErr
          | some ⟨.comment, _⟩ => peekF f
          | some ⟨.newline, _⟩ => peekF f
          | some t => fail .unexpected t.loc
        else
        let s ← get
        if s.activeMacro.isNone then
          match tok with
          | some ⟨.label .global value, _⟩ =>
            if (lookupMacro s.macros value).isSome then
              let ms ← macroInvokeF f value
              pushInvocation ms
              peekF f
            else finish f tok src
          | some ⟨.dir "String", loc⟩ =>
            let t ← stringArgF f loc false
            modify fun s => { s with stash := some t, loc := some loc }
            peekF f
          | some ⟨.dir "Label", loc⟩ =>
            let t ← stringArgF f loc true
            modify fun s => { s with stash := some t, loc := some loc }
            peekF f
          | some ⟨.dir "Count", loc⟩ =>
            let ms ← countF f loc
            pushInvocation ms
            peekF f
          | some ⟨.dir "GetMeta", loc⟩ =>
            let ms ← getMetaF f loc
            pushInvocation ms
            peekF f
          | some ⟨.dir "Parse", loc⟩ =>
            match ← nextF f with
            | none => eoiErr
            | some ⟨.str text, _⟩ =>
              let s ← get
              match s.source, s.cwd with
              | some cur, some cwd =>
                let lx := Lexer.new loc.file text.toList .eof
                set { s with sources := .lex lx (some loc) :: cur :: s.sources,
                             cwds := cwd :: cwd :: s.cwds, source := none, cwd := none }
                peekF f
              | _, _ => eoiErr
            | some t => fail .unexpected t.loc
          | some ⟨.dir "Each", loc⟩ =>
            let states ← eachF f loc
            let s ← get
            match s.source, s.cwd with
            | some cur, some cwd =>
              -- the states are pushed reversed: the first element's replay ends up on top
              set { s with sources := (states.map Source.mac) ++ cur :: s.sources,
                           cwds := (states.map fun _ => cwd) ++ cwd :: s.cwds,
                           source := none, cwd := none }
              peekF f
            | _, _ => eoiErr
          | some ⟨.dir "Hex", loc⟩ =>
            let ms ← numberDirF f loc 16
            pushInvocation ms
            peekF f
          | some ⟨.dir "Bin", loc⟩ =>
            let ms ← numberDirF f loc 2
            pushInvocation ms
            peekF f
          | some ⟨.dir "IsDef", loc⟩ =>
            match ← nextF f with
            | none => eoiErr
            | some ⟨.label kind value, lloc⟩ =>
              let direct ← qualifyOrFail kind value lloc
              let s ← get
              let v := if (s.core.symtab.get direct).isSome then 1 else 0
              set { s with stash := some ⟨.num v, loc⟩, loc := some loc }
              peekF f
            | some t => fail .unexpected t.loc
          | _ => finish f tok src
        else finish f tok src
where
  /-- end of the loop body: stash the token; an exhausted source is dropped and the loop goes on
  with the source below it -/
  finish (f : Nat) (tok : Option LTok) (src : Source) : AM (Option LTok) := do
    modify fun s => { s with stash := tok, loc := some src.loc }
    if tok.isNone then modify fun s => { s with source := none, cwd := none }
    peekF f

/-- `Assembler::next`. -/
def nextF : Nat → AM (Option LTok)
  | 0 => do fail .fuel ((← get).loc.getD {})
  | f + 1 => do
    let _ ← peekF f
    let s ← get
    set { s with stash := none }
    pure s.stash

/-- `expect_macro_invoke`: collect one argument per parameter (a single token or one brace group). -/
def macroInvokeF : Nat → String → AM MacroState
  | 0, _ => do fail .fuel ((← get).loc.getD {})
  | f + 1, name => do
    let s ← get
    let argCount := ((lookupMacro s.macros name).map (·.args.length)).getD 0
    let loc ← curLoc
    let args ← collectArgsF f argCount argCount []
    let s ← get
    let ent := "__" ++ toString s.entropy
    set { s with entropy := s.entropy + 1 }
    pure { name := name, args := args, loc := loc, includedFrom := some loc, entropy := ent }

def collectArgsF : Nat → Nat → Nat → List (List LTok) → AM (List (List LTok))
  | 0, _, _, _ => do fail .fuel ((← get).loc.getD {})
  | _ + 1, _, 0, acc => pure acc
  | f + 1, total, k + 1, acc => do
    let toks ← oneArgF f 0 []
    -- a comma between arguments, none after the last
    if k > 0 then
      match ← nextF f with
      | some ⟨.sym "Comma", _⟩ => pure ()
      | some t => fail .unexpected t.loc
      | none => eoiErr
    collectArgsF f total k (acc ++ [toks])

/-- One macro argument: brace depth counter, line breaks and comments dropped. -/
def oneArgF : Nat → Nat → List LTok → AM (List LTok)
  | 0, _, _ => do fail .fuel ((← get).loc.getD {})
  | f + 1, depth, toks => fun s => oneArgG (opsF f) f depth toks s

/-- `expect_string_directive_arg` / `expect_label_directive_arg`. -/
def stringArgF : Nat → Loc → Bool → AM LTok
  | 0, _, _ => do fail .fuel ((← get).loc.getD {})
  | f + 1, loc, asLabel => do
    let text ← stringLoopF f 0 ""
    if asLabel then
      if wordCount text.toList false 0 > 1 then fail .unexpected loc
      else match labelKindOf text with
        | some k => pure ⟨.label k text, loc⟩
        | none => fail .unexpected loc
    else pure ⟨.str text, loc⟩

def stringLoopF : Nat → Nat → String → AM String
  | 0, _, _ => do fail .fuel ((← get).loc.getD {})
  | f + 1, depth, acc => do
    let arch := (← get).arch
    match ← nextF f with
    | none => eoiErr
    | some ⟨.newline, _⟩ => again f depth acc
    | some ⟨.comment, _⟩ => again f depth acc
    | some ⟨.sym "BraceOpen", _⟩ => again f (depth + 1) (if depth > 0 then acc ++ "{" else acc)
    | some ⟨.sym "BraceClose", loc⟩ =>
      if depth = 0 then fail .unexpected loc
      else if depth = 1 then pure acc
      else again f (depth - 1) (acc ++ "}")
    | some t =>
      match stringify arch t.tok with
      | some piece => again f depth (acc ++ piece)
      | none => fail .unexpected t.loc
where
  again (f depth : Nat) (acc : String) : AM String :=
    if depth = 0 then pure acc else stringLoopF f depth acc

/-- `expect_count_directive`. -/
def countF : Nat → Loc → AM MacroState
  | 0, _ => do fail .fuel ((← get).loc.getD {})
  | f + 1, loc => do
    let (eloc, v) ← constExprF f
    match v with
    | none => fail .needsNow eloc
    | some v =>
      if v.toInt < 0 then fail .range eloc else
      let s ← get
      let name := "@count Invocation" ++ toString s.entropy
      let ent := "__" ++ toString s.entropy
      -- the look-ahead token left in the stash is re-queued after the generated tokens
      let toks := countToks v.toNat loc s.stash
      set { s with entropy := s.entropy + 1, stash := none,
                   macros := setMacro s.macros name { args := [], toks := toks } }
      pure { name := name, args := [], loc := loc, includedFrom := some loc, entropy := ent }

/-- `expect_number_directive_arg` (`@hex`, `@bin`). -/
def numberDirF : Nat → Loc → Nat → AM MacroState
  | 0, _, _ => do fail .fuel ((← get).loc.getD {})
  | f + 1, loc, base => do
    let (eloc, v) ← constExprF f
    match v with
    | none => fail .needsNow eloc
    | some v =>
      let s ← get
      let dname := if base = 16 then "@hex" else "@bin"
      let name := dname ++ " Invocation" ++ toString s.entropy
      let ent := "__" ++ toString s.entropy
      let digits := if base = 16 then hexDigits v.toNat else binDigits v.toNat
      let toks := [MTok.tok ⟨.str digits, loc⟩]
      let toks := match s.stash with | some t => toks ++ [.tok t] | none => toks
      set { s with entropy := s.entropy + 1, stash := none,
                   macros := setMacro s.macros name { args := [], toks := toks } }
      pure { name := name, args := [], loc := loc, includedFrom := some loc, entropy := ent }

/-- `@getmeta sym, "key"`. -/
def getMetaF : Nat → Loc → AM MacroState
  | 0, _ => do fail .fuel ((← get).loc.getD {})
  | f + 1, loc => do
    let direct ← match ← nextF f with
      | none => eoiErr
      | some ⟨.label kind value, lloc⟩ => qualifyOrFail kind value lloc
      | some t => fail .unexpected t.loc
    match ← nextF f with
    | some ⟨.sym "Comma", _⟩ => pure ()
    | some t => fail .unexpected t.loc
    | none => eoiErr
    let key ← match ← nextF f with
      | none => eoiErr
      | some ⟨.str k, _⟩ => pure k
      | some t => fail .unexpected t.loc
    let s ← get
    let toks := match s.core.symtab.get direct with
      | some e => (e.metas.filter (·.1 == key)).map fun kv => MTok.tok ⟨.str kv.2, loc⟩
      | none => [MTok.tok ⟨.str "", loc⟩]
    let name := "@metaget Invocation" ++ toString s.entropy
    let ent := "__" ++ toString s.entropy
    set { s with entropy := s.entropy + 1, macros := setMacro s.macros name { args := [], toks := toks } }
    pure { name := name, args := [], loc := loc, includedFrom := some loc, entropy := ent }

/-- `expect_each_directive`. -/
def eachF : Nat → Loc → AM (List MacroState)
  | 0, _ => do fail .fuel ((← get).loc.getD {})
  | f + 1, loc => do
    let argName ← match ← nextF f with
      | none => eoiErr
      | some ⟨.label kind value, lloc⟩ => if kind = .global then pure value else fail .unexpected lloc
      | some t => fail .unexpected t.loc
    match ← nextF f with
    | some ⟨.sym "Comma", _⟩ => pure ()
    | some t => fail .unexpected t.loc
    | none => eoiErr
    let items ← eachItemsF f 0 []
    let s ← get
    let name := "@each Invocation" ++ toString s.entropy
    let ent := "__" ++ toString s.entropy
    set { s with entropy := s.entropy + 1 }
    let body ← eachBodyF f argName []
    modify fun s => { s with macros := setMacro s.macros name { args := [argName], toks := body } }
    pure (items.map fun t =>
      { name := name, args := [[t]], loc := loc, includedFrom := some loc, entropy := ent })

def eachItemsF : Nat → Nat → List LTok → AM (List LTok)
  | 0, _, _ => do fail .fuel ((← get).loc.getD {})
  | f + 1, depth, acc => do
    match ← nextF f with
    | none => eoiErr
    | some ⟨.newline, _⟩ => again f depth acc
    | some ⟨.comment, _⟩ => again f depth acc
    | some t@⟨.sym "BraceOpen", _⟩ => again f (depth + 1) (if depth > 0 then acc ++ [t] else acc)
    | some t@⟨.sym "BraceClose", loc⟩ =>
      if depth = 0 then fail .unexpected loc
      else if depth = 1 then pure acc
      else again f (depth - 1) (acc ++ [t])
    | some t => again f depth (acc ++ [t])
where
  again (f depth : Nat) (acc : List LTok) : AM (List LTok) :=
    if depth = 0 then pure acc else eachItemsF f depth acc

def eachBodyF : Nat → String → List MTok → AM (List MTok)
  | 0, _, _ => do fail .fuel ((← get).loc.getD {})
  | f + 1, argName, acc => do
    match ← nextF f with
    | none => eoiErr
    | some ⟨.dir "EndEach", _⟩ => pure acc
    | some t => eachBodyF f argName (acc ++ [slotOf [argName] t])

/-- `const_expr` over the pump at this fuel. -/
def constExprF : Nat → AM (Loc × Option I32)
  | 0 => do fail .fuel ((← get).loc.getD {})
  | f + 1 => fun s => constExpr (opsF f) f s

/-- The token supply handed to the generic expression ladder / decision-tree interpreter. -/
def opsF : Nat → TokOps Asm
  | 0 => { peek := fun s => .error ⟨.fuel, s.loc.getD {}⟩, next := fun s => .error ⟨.fuel, s.loc.getD {}⟩,
           loc := fun s => s.loc.getD {}, getC := (·.core), setC := fun s c => { s with core := c } }
  | f + 1 => { peek := peekF f, next := nextF f, loc := fun s => s.loc.getD {},
               getC := (·.core), setC := fun s c => { s with core := c } }
end

end Az65
