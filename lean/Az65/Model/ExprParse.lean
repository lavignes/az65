import Az65.Model.Core
/-
Model of `Assembler::expr` / `expr_prec_0 … expr_prec_11`: the recursive-descent precedence
ladder producing a postfix node list, generic in the token supply.  The ten binary levels differ
only in their operator sets, so they are one function driven by `levelOps` (each row transcribes
one `expr_prec_k`).
-/
namespace Az65
variable {σ : Type}

/-- Operators of `expr_prec_k`, k = 1..10: (SymbolName variant, node pushed). -/
def levelOps : Nat → List (String × Node)
  | 1 => [("DoublePipe", .orLogical)]
  | 2 => [("DoubleAmpersand", .andLogical)]
  | 3 => [("Pipe", .or)]
  | 4 => [("Caret", .xor)]
  | 5 => [("Ampersand", .and)]
  | 6 => [("Equal", .eq), ("NotEqual", .ne)]
  | 7 => [("LessThan", .lt), ("LessEqual", .le), ("GreaterThan", .gt), ("GreaterEqual", .ge)]
  | 8 => [("ShiftLeft", .shl), ("ShiftLeftLogical", .shll), ("ShiftRight", .shr), ("ShiftRightLogical", .shrl)]
  | 9 => [("Plus", .add), ("Minus", .sub)]
  | 10 => [("Star", .mul), ("Div", .div), ("Mod", .rem)]
  | _ => []

/-- Prefix operators of `expr_prec_11`: (SymbolName variant, node pushed if any). -/
def unaryOps : List (String × Option Node) :=
  [("Minus", some .neg), ("Plus", none), ("Bang", some .notLogical), ("Tilde", some .invert),
   ("LessThan", some .lo), ("GreaterThan", some .hi)]

def lookupOp {α} (tbl : List (String × α)) (s : String) : Option α :=
  match tbl with
  | [] => none
  | (k, v) :: r => if k = s then some v else lookupOp r s

/-- `peeked_symbol(sym)`: peek and test. -/
def peekedSymbol (ops : TokOps σ) (name : String) (s : σ) : R σ Bool :=
  match ops.peek s with
  | .error e => .error e
  | .ok (some ⟨.sym n, _⟩, s') => .ok (n == name, s')
  | .ok (_, s') => .ok (false, s')

/-- The node a name is read as: its current value if that can be computed now (parse-time
inlining), the name itself otherwise. -/
def labelNode (c : CoreSt) (direct : String) : Node :=
  match c.symtab.get direct with
  | some e =>
    match e.sym with
    | .val v => .val v
    | .expr body =>
      match evaluate c.symtab body with
      | .ok v => .val v
      | _ => .label direct
  | none => .label direct

mutual
/-- `expr_prec_k` for level `k` (0 = ternary, 1..10 binary, ≥ 11 unary/primary);
returns the location of the first token and the extended node list. -/
def parsePrec (ops : TokOps σ) : Nat → Nat → List Node → σ → R σ (Loc × List Node)
  | 0, _, _, s => .error ⟨.fuel, ops.loc s⟩
  | f + 1, k, nodes, s =>
    if k = 0 then
      match parsePrec ops f 1 nodes s with
      | .error e => .error e
      | .ok ((loc, nodes), s) =>
        match ops.peek s with
        | .error e => .error e
        | .ok (some ⟨.sym "Question", _⟩, s) =>
          match ops.next s with
          | .error e => .error e
          | .ok (_, s) =>
            match parsePrec ops f 1 nodes s with
            | .error e => .error e
            | .ok ((_, nodes), s) =>
              match peekedSymbol ops "Colon" s with
              | .error e => .error e
              | .ok (false, s) => .error ⟨.unexpected, ops.loc s⟩
              | .ok (true, s) =>
                match ops.next s with
                | .error e => .error e
                | .ok (_, s) =>
                  match parsePrec ops f 1 nodes s with
                  | .error e => .error e
                  | .ok ((_, nodes), s) => .ok ((loc, nodes ++ [.ternary]), s)
        | .ok (_, s) => .ok ((loc, nodes), s)
    else if k ≤ 10 then
      match parsePrec ops f (k + 1) nodes s with
      | .error e => .error e
      | .ok ((loc, nodes), s) => parseLoop ops f k loc nodes s
    else
      match ops.peek s with
      | .error e => .error e
      | .ok (none, s) => .error ⟨.eoi, ops.loc s⟩
      | .ok (some ⟨.sym name, loc⟩, s) =>
        match lookupOp unaryOps name with
        | some node =>
          match ops.next s with
          | .error e => .error e
          | .ok (_, s) =>
            match parsePrec ops f 11 nodes s with
            | .error e => .error e
            | .ok ((_, nodes), s) =>
              .ok ((loc, match node with | some n => nodes ++ [n] | none => nodes), s)
        | none =>
          if name = "ParenOpen" then
            match ops.next s with
            | .error e => .error e
            | .ok (_, s) =>
              match parsePrec ops f 0 nodes s with
              | .error e => .error e
              | .ok ((_, nodes), s) =>
                match peekedSymbol ops "ParenClose" s with
                | .error e => .error e
                | .ok (false, s) => .error ⟨.unexpected, ops.loc s⟩
                | .ok (true, s) =>
                  match ops.next s with
                  | .error e => .error e
                  | .ok (_, s) => .ok ((loc, nodes), s)
          else .error ⟨.unexpected, loc⟩
      | .ok (some ⟨.num v, loc⟩, s) =>
        match ops.next s with
        | .error e => .error e
        | .ok (_, s) => .ok ((loc, nodes ++ [.val (i32OfNat v)]), s)
      | .ok (some ⟨.dir name, loc⟩, s) =>
        if name = "Here" then
          match ops.next s with
          | .error e => .error e
          | .ok (_, s) => .ok ((loc, nodes ++ [.val (i32OfNat (ops.getC s).here)]), s)
        else if name = "SizeOf" then
          match ops.next s with
          | .error e => .error e
          | .ok (_, s) =>
            match ops.next s with
            | .error e => .error e
            | .ok (none, s) => .error ⟨.eoi, ops.loc s⟩
            | .ok (some ⟨.label kind value, lloc⟩, s) =>
              match qualify (ops.getC s).ns kind value with
              | none => .error ⟨.noScope, lloc⟩
              | some direct =>
                let c := (ops.getC s).touch direct lloc
                .ok ((lloc, nodes ++ [.sizeOf direct]), ops.setC s c)
            | .ok (some t, _) => .error ⟨.unexpected, t.loc⟩
        else .error ⟨.unexpected, loc⟩
      | .ok (some ⟨.label kind value, loc⟩, s) =>
        match ops.next s with
        | .error e => .error e
        | .ok (_, s) =>
          match qualify (ops.getC s).ns kind value with
          | none => .error ⟨.noScope, loc⟩
          | some direct =>
            let c := ops.getC s
            let node := labelNode c direct
            .ok ((loc, nodes ++ [node]), ops.setC s (c.touch direct loc))
      | .ok (some t, _) => .error ⟨.unexpected, t.loc⟩

/-- The `loop { match self.peek()? { op => …, _ => return } }` of a binary level. -/
def parseLoop (ops : TokOps σ) : Nat → Nat → Loc → List Node → σ → R σ (Loc × List Node)
  | 0, _, _, _, s => .error ⟨.fuel, ops.loc s⟩
  | f + 1, k, loc, nodes, s =>
    match ops.peek s with
    | .error e => .error e
    | .ok (some ⟨.sym name, _⟩, s) =>
      match lookupOp (levelOps k) name with
      | some node =>
        match ops.next s with
        | .error e => .error e
        | .ok (_, s) =>
          match parsePrec ops f (k + 1) nodes s with
          | .error e => .error e
          | .ok ((_, nodes), s) => parseLoop ops f k loc (nodes ++ [node]) s
      | none => .ok ((loc, nodes), s)
    | .ok (_, s) => .ok ((loc, nodes), s)
end

/-- `Assembler::expr`. -/
def parseExpr (ops : TokOps σ) (fuel : Nat) (s : σ) : R σ (Loc × List Node) :=
  parsePrec ops fuel 0 [] s

/-- Turn an evaluation result into the `Option<i32>` the Rust sees; a crash is an error. -/
def evalOpt (c : CoreSt) (nodes : List Node) (loc : Loc) : Except Err (Option I32) :=
  match c.eval nodes with
  | .ok v => .ok (some v)
  | .unsolved => .ok none
  | .crash site => .error ⟨.crash site, loc⟩

/-- `Assembler::const_expr`. -/
def constExpr (ops : TokOps σ) (fuel : Nat) (s : σ) : R σ (Loc × Option I32) :=
  match parseExpr ops fuel s with
  | .error e => .error e
  | .ok ((loc, nodes), s) =>
    match evalOpt (ops.getC s) nodes loc with
    | .error e => .error e
    | .ok v => .ok ((loc, v), s)

end Az65
