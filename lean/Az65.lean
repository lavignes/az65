-- generated by tools/gen_root.py
import Az65.Basic
import Az65.Drv.Abs
import Az65.Drv.Asm
import Az65.Drv.CR
import Az65.Drv.Cli
import Az65.Drv.Expr
import Az65.Drv.Forms
import Az65.Drv.Intern
import Az65.Drv.Lex
import Az65.Drv.Spec
import Az65.Gen.Names
import Az65.Gen.TreeMos6502
import Az65.Gen.TreeSm83
import Az65.Gen.TreeZ80
import Az65.Lemmas.AbsFrame
import Az65.Lemmas.ExprBridge
import Az65.Lemmas.LexLemmas
import Az65.Lemmas.LinkLemmas
import Az65.Lemmas.ParseLemmas
import Az65.Lemmas.WsLemmas
import Az65.Model.Abs
import Az65.Model.Asm
import Az65.Model.CharReader
import Az65.Model.Core
import Az65.Model.Effects
import Az65.Model.Export
import Az65.Model.Expr
import Az65.Model.ExprParse
import Az65.Model.IR
import Az65.Model.Intern
import Az65.Model.Interp
import Az65.Model.Lexer
import Az65.Model.Link
import Az65.Model.One
import Az65.Model.Plain
import Az65.Model.PumpG
import Az65.Model.Stmt
import Az65.Model.Tables
import Az65.Spec.CExpr
import Az65.Spec.Mos6502
import Az65.Spec.Opnd
import Az65.Spec.Sm83
import Az65.Spec.Utf8
import Az65.Spec.Z80
import Az65.Thm.C01
import Az65.Thm.C01Forms.Defs
import Az65.Thm.C01Forms.P0
import Az65.Thm.C01Forms.P1
import Az65.Thm.C01Forms.P10
import Az65.Thm.C01Forms.P11
import Az65.Thm.C01Forms.P12
import Az65.Thm.C01Forms.P13
import Az65.Thm.C01Forms.P14
import Az65.Thm.C01Forms.P15
import Az65.Thm.C01Forms.P2
import Az65.Thm.C01Forms.P3
import Az65.Thm.C01Forms.P4
import Az65.Thm.C01Forms.P5
import Az65.Thm.C01Forms.P6
import Az65.Thm.C01Forms.P7
import Az65.Thm.C01Forms.P8
import Az65.Thm.C01Forms.P9
import Az65.Thm.C02
import Az65.Thm.C02Forms.Defs
import Az65.Thm.C02Forms.P0
import Az65.Thm.C02Forms.P1
import Az65.Thm.C02Forms.P2
import Az65.Thm.C02Forms.P3
import Az65.Thm.C02Forms.P4
import Az65.Thm.C02Forms.P5
import Az65.Thm.C02Forms.P6
import Az65.Thm.C02Forms.P7
import Az65.Thm.C03
import Az65.Thm.C03Forms.Defs
import Az65.Thm.C03Forms.P0
import Az65.Thm.C03Forms.P1
import Az65.Thm.C03Forms.P2
import Az65.Thm.C03Forms.P3
import Az65.Thm.C03Forms.P4
import Az65.Thm.C03Forms.P5
import Az65.Thm.C03Forms.P6
import Az65.Thm.C03Forms.P7
import Az65.Thm.C04
import Az65.Thm.C04Parse
import Az65.Thm.C05
import Az65.Thm.C06
import Az65.Thm.C07
import Az65.Thm.C08
import Az65.Thm.C09
import Az65.Thm.C10
import Az65.Thm.C11
import Az65.Thm.C12
import Az65.Thm.C13
import Az65.Thm.C14
import Az65.Thm.C15
import Az65.Thm.C16
import Az65.Thm.C17
import Az65.Thm.C18
import Az65.Thm.C18Ws
import Az65.Thm.C19
import Az65.Thm.C20
import Az65.Thm.IsaCommon
import Az65.Thm.IsaMos6502
import Az65.Thm.IsaSm83
import Az65.Thm.IsaZ80
